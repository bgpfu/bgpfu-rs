import Bgpfu.Thm.C01
import Bgpfu.Thm.C02
import Bgpfu.Thm.C03
import Bgpfu.Thm.C04
import Bgpfu.Thm.C04Docs
import Bgpfu.Thm.C05
import Bgpfu.Thm.C06
import Bgpfu.Thm.C07
import Bgpfu.Thm.C08
import Bgpfu.Thm.C09
import Bgpfu.Thm.C10
import Bgpfu.Thm.C11
import Bgpfu.Thm.C12
import Bgpfu.Thm.C13
import Bgpfu.Thm.C14
import Bgpfu.Thm.C15
import Bgpfu.Thm.C16
import Bgpfu.Thm.C17
import Bgpfu.Thm.C18
import Bgpfu.Thm.C19
import Bgpfu.Thm.C20
/-! Everything the checks rest on: the property theorems (and through them the lemmas, specifications and models). The
line-protocol drivers (`Bgpfu/Drive`) are built with `modeld` (`Main.lean`). -/
