import Bgpfu.Model.Xml
import Bgpfu.Model.Readers
import Bgpfu.Model.Fetch
import Bgpfu.Model.Policy
import Bgpfu.Model.Junos
/-
Event-level model of the agent's reader of INSTALLED policies (C01 read-back),
/repo/junos-agent/src/policies/fetch.rs:
  fetch.rs:243-327   impl ReadXml for Maybe<Installed>          → `instThenLoop`, `instLoop`, `InstSt.finish`,
                                                                   `readInstalledStmt`
  fetch.rs:344-432   Term::borrowed_read_xml                    → `acceptLoop`, `termLoop`, `TermSt.finish`
  fetch.rs:439-481   TermFrom::try_into_ranges                  → `withLengthRange`, `toRange`, `toRanges`,
                                                                   `tryIntoRanges`
  fetch.rs:483-533   TermFrom::borrowed_read_xml                → `fromLoop`, `FromSt.finish`
  fetch.rs:536-541   trimmed                                    → `Xml.trim`
  fetch.rs:548-612   RouteFilter::borrowed_read_xml             → `choiceValueLoop` (the inner loop that has
                                                                   no `End` arm), `routeFilterLoop`
  fetch.rs:60-141    impl<T> ReadXml for Policies<T>            → reused from Model/Fetch.lean
                                                                   (`policiesLoop` …, generic in the reader)
  policies/verif.rs:21-34, 63-72  read_data / read_installed    → `readData`, `readInstalledDoc`
One Lean function per Rust loop, one `match` arm per Rust arm, same order and guards; `fuel` is
decremented once per loop iteration (never exhausted: `Lemmas/FetchTotal.lean`).

Library results are inputs (`IOracle`):
  unescape      `quick_xml::escape::unescape` (`none` = error)
  parsePrefix   `<ip::concrete::Prefix<A> as FromStr>::from_str` → (address bits as a number, length);
                `none` = error
  parseLen      `<ip::concrete::PrefixLength<A> as FromStr>::from_str` (`"/24"` → 24); `none` = error
`PrefixRange::with_length_range` is modelled from its source (generic-ip 0.1.1
concrete/prefix/range.rs:101-105 with `Range::new` :49-58): `lower = max(len, lo)`, `None` unless
`lower ≤ hi` — the same reading as `Policy.readRange`. `collect::<HashSet>` is `Policy.dedup`.
Import-free apart from Model.{Xml,Readers,Fetch,Policy,Junos}.
-/
namespace Xml
open Policy (Fam Range Installed dedup)

structure IOracle where
  unescape : String → Option String
  parsePrefix : Fam → String → Option (Nat × Nat)
  parseLen : Fam → String → Option Nat

/-! ### RouteFilter::borrowed_read_xml (fetch.rs:548-612) -/

/-- fetch.rs:574-589 the inner loop after `<choice-ident>`: no `End` arm -/
def choiceValueLoop : (fuel : Nat) → List Ev → Except Err (String × List Ev)
  | 0, _ => .error .fuel
  | _ + 1, [] => .error .xml
  | fuel + 1, ev :: rest =>
    match ev with
    | .error => .error .xml
    | .start t =>
      if t.is XNM "choice-value" then
        (match readText t rest with
         | .ok (s, r) => .ok (trim s, r)
         | .error e => .error e)
      else .error .unexpected
    | .comment => choiceValueLoop fuel rest
    | _ => .error .unexpected

/-- `RouteFilter { address, prefix_length_range }` while being read -/
structure RfSt where
  address : Option String := none
  plr : Option String := none
  deriving DecidableEq, Repr, Inhabited

/-- fetch.rs:556-598 -/
def routeFilterLoop : (fuel : Nat) → (endRaw : String) → RfSt → List Ev → Except Err (RfSt × List Ev)
  | 0, _, _, _ => .error .fuel
  | _ + 1, _, _, [] => .error .xml
  | fuel + 1, endRaw, st, ev :: rest =>
    match ev with
    | .error => .error .xml
    | .start t =>
      if t.is XNM "address" && st.address.isNone then
        (match readText t rest with
         | .ok (s, r) => routeFilterLoop fuel endRaw { st with address := some (trim s) } r
         | .error e => .error e)
      else if t.is XNM "choice-ident" && st.plr.isNone then
        (match readText t rest with
         | .ok (s, r) =>
           if trim s != "prefix-length-range" then .error .other
           else
             (match choiceValueLoop fuel r with
              | .ok (v, r') => routeFilterLoop fuel endRaw { st with plr := some v } r'
              | .error e => .error e)
         | .error e => .error e)
      else .error .unexpected
    | .comment => routeFilterLoop fuel endRaw st rest
    | .end raw => if raw == endRaw then .ok (st, rest) else .error .unexpected
    | _ => .error .unexpected

/-- fetch.rs:599-610 -/
def RfSt.finish (st : RfSt) : Except Err (String × String) :=
  match st.address with
  | none => .error .missing
  | some a =>
    match st.plr with
    | none => .error .missing
    | some p => .ok (a, p)

def readRouteFilter (fuel : Nat) (t : Tag) (rest : List Ev) : Except Err ((String × String) × List Ev) :=
  match routeFilterLoop fuel t.raw {} rest with
  | .error e => .error e
  | .ok (st, r) =>
    match st.finish with
    | .error e => .error e
    | .ok v => .ok (v, r)

/-! ### TermFrom::borrowed_read_xml (fetch.rs:483-533) -/

/-- `TermFrom { family, route_filters }` while being read -/
structure FromSt where
  family : Option String := none
  filters : List (String × String) := []
  deriving DecidableEq, Repr, Inhabited

def fromLoop : (fuel : Nat) → (endRaw : String) → FromSt → List Ev → Except Err (FromSt × List Ev)
  | 0, _, _, _ => .error .fuel
  | _ + 1, _, _, [] => .error .xml
  | fuel + 1, endRaw, st, ev :: rest =>
    match ev with
    | .error => .error .xml
    | .start t =>
      if t.is XNM "family" && st.family.isNone then
        (match readText t rest with
         | .ok (s, r) => fromLoop fuel endRaw { st with family := some (trim s) } r
         | .error e => .error e)
      else if t.is XNM "route-filter" then
        (match readRouteFilter fuel t rest with
         | .ok (rf, r) => fromLoop fuel endRaw { st with filters := st.filters ++ [rf] } r
         | .error e => .error e)
      else .error .unexpected
    | .comment => fromLoop fuel endRaw st rest
    | .end raw => if raw == endRaw then .ok (st, rest) else .error .unexpected
    | _ => .error .unexpected

/-- `TermFrom` -/
structure TermFrom where
  family : String
  filters : List (String × String)
  deriving DecidableEq, Repr, Inhabited

/-- fetch.rs:525-531 -/
def FromSt.finish (st : FromSt) : Except Err TermFrom :=
  match st.family with
  | none => .error .missing
  | some f => .ok { family := f, filters := st.filters }

def readTermFrom (fuel : Nat) (t : Tag) (rest : List Ev) : Except Err (TermFrom × List Ev) :=
  match fromLoop fuel t.raw {} rest with
  | .error e => .error e
  | .ok (st, r) =>
    match st.finish with
    | .error e => .error e
    | .ok v => .ok (v, r)

/-! ### Term::borrowed_read_xml (fetch.rs:344-432) -/

/-- fetch.rs:375-389 the loop over the children of a term's `<then>` -/
def acceptLoop : (fuel : Nat) → (endRaw : String) → (accept : Bool) → List Ev → Except Err (Bool × List Ev)
  | 0, _, _, _ => .error .fuel
  | _ + 1, _, _, [] => .error .xml
  | fuel + 1, endRaw, accept, ev :: rest =>
    match ev with
    | .error => .error .xml
    | .empty t => if t.is XNM "accept" && !accept then acceptLoop fuel endRaw true rest else .error .unexpected
    | .comment => acceptLoop fuel endRaw accept rest
    | .end raw => if raw == endRaw then .ok (accept, rest) else .error .unexpected
    | _ => .error .unexpected

structure TermSt where
  name : Option String := none
  frm : Option TermFrom := none
  thn : Bool := false
  deriving DecidableEq, Repr, Inhabited

def termLoop : (fuel : Nat) → (endRaw : String) → TermSt → List Ev → Except Err (TermSt × List Ev)
  | 0, _, _, _ => .error .fuel
  | _ + 1, _, _, [] => .error .xml
  | fuel + 1, endRaw, st, ev :: rest =>
    match ev with
    | .error => .error .xml
    | .start t =>
      if t.is XNM "name" && st.name.isNone then
        -- `reader.read_text(..)`: raw span, neither unescaped nor trimmed
        (match readText t rest with
         | .ok (s, r) => termLoop fuel endRaw { st with name := some s } r
         | .error e => .error e)
      else if t.is XNM "from" && st.frm.isNone then
        (match readTermFrom fuel t rest with
         | .ok (f, r) => termLoop fuel endRaw { st with frm := some f } r
         | .error e => .error e)
      else if t.is XNM "then" && !st.thn then
        (match acceptLoop fuel t.raw false rest with
         | .ok (accept, r) =>
           if accept then termLoop fuel endRaw { st with thn := true } r
           else .error .missing                       -- MissingElement { then, accept }
         | .error e => .error e)
      else .error .unexpected
    | .comment => termLoop fuel endRaw st rest
    | .end raw => if raw == endRaw then .ok (st, rest) else .error .unexpected
    | _ => .error .unexpected

/-- fetch.rs:410-431 -/
def TermSt.finish (st : TermSt) : Except Err TermFrom :=
  if st.thn then
    match st.name with
    | none => .error .missing
    | some n =>
      match st.frm with
      | none => .error .missing
      | some f => if n != f.family then .error .other else .ok f
  else .error .missing

/-- `Term::borrowed_read_xml(reader, &tag)`; only `term.from` is used by the caller -/
def readTerm (fuel : Nat) (t : Tag) (rest : List Ev) : Except Err (TermFrom × List Ev) :=
  match termLoop fuel t.raw {} rest with
  | .error e => .error e
  | .ok (st, r) =>
    match st.finish with
    | .error e => .error e
    | .ok v => .ok (v, r)

/-! ### TermFrom::try_into_ranges (fetch.rs:439-481) -/

/-- `str::split_once(c)` -/
def splitOnceL (c : Char) : List Char → Option (List Char × List Char)
  | [] => none
  | x :: xs =>
    if x == c then some ([], xs)
    else match splitOnceL c xs with
      | some (a, b) => some (x :: a, b)
      | none => none

def splitOnceS (c : Char) (s : String) : Option (String × String) :=
  match splitOnceL c s.toList with
  | some (a, b) => some (String.ofList a, String.ofList b)
  | none => none

/-- `PrefixRange::from(prefix).with_length_range(lo..=hi)` for the prefix `addr/len` of family `f` -/
def withLengthRange (f : Fam) (addr len lo hi : Nat) : Option Range :=
  if max len lo ≤ hi then some { v6 := f.isV6, addr := addr, len := len, lo := max len lo, hi := hi } else none

/-- the closure of fetch.rs:455-476 on one route-filter; every failure becomes `ReadError::Other` -/
def toRange (o : IOracle) (f : Fam) (rf : String × String) : Except Err Range :=
  match o.parsePrefix f rf.1 with
  | none => .error .other
  | some (addr, len) =>
    match splitOnceS '-' rf.2 with
    | none => .error .other
    | some (l, u) =>
      match o.parseLen f l with
      | none => .error .other
      | some lo =>
        match o.parseLen f u with
        | none => .error .other
        | some hi =>
          match withLengthRange f addr len lo hi with
          | none => .error .other
          | some r => .ok r

/-- `.iter().map(..).collect::<Result<_, _>>()`: the first failure wins -/
def toRanges (o : IOracle) (f : Fam) : List (String × String) → Except Err (List Range)
  | [] => .ok []
  | rf :: rest =>
    match toRange o f rf with
    | .error e => .error e
    | .ok r =>
      match toRanges o f rest with
      | .error e => .error e
      | .ok rs => .ok (r :: rs)

/-- fetch.rs:443-452 the `(A::as_afi(), family)` check -/
def afiMatches (f : Fam) (family : String) : Bool :=
  match f with
  | .v4 => family == "inet"
  | .v6 => family == "inet6"

/-- `TermFrom::try_into_ranges::<A>`; the result is a `HashSet`: first occurrences in order -/
def tryIntoRanges (o : IOracle) (f : Fam) (frm : TermFrom) : Except Err (List Range) :=
  if !afiMatches f frm.family then .error .other
  else match toRanges o f frm.filters with
    | .error e => .error e
    | .ok rs => .ok (dedup rs)

/-! ### Maybe<Installed>::read_xml (fetch.rs:243-327) -/

/-- fetch.rs:282-297 the loop over the children of the statement's `<then>` -/
def instThenLoop : (fuel : Nat) → (endRaw : String) → (reject : Bool) → List Ev → Except Err (Bool × List Ev)
  | 0, _, _, _ => .error .fuel
  | _ + 1, _, _, [] => .error .xml
  | fuel + 1, endRaw, reject, ev :: rest =>
    match ev with
    | .error => .error .xml
    | .empty t => if t.is XNM "reject" then instThenLoop fuel endRaw true rest else .error .unexpected
    | .comment => instThenLoop fuel endRaw reject rest
    | .end raw => if raw == endRaw then .ok (reject, rest) else .error .unexpected
    | _ => .error .unexpected

structure InstSt where
  name : Option String := none
  v4 : Option (List Range) := none
  v6 : Option (List Range) := none
  reject : Bool := false
  deriving DecidableEq, Repr

/-- fetch.rs:262-275 the family dispatch after a term has been read -/
def InstSt.addTerm (o : IOracle) (st : InstSt) (frm : TermFrom) : Except Err InstSt :=
  if frm.family == "inet" && st.v4.isNone then
    (match tryIntoRanges o .v4 frm with
     | .ok rs => .ok { st with v4 := some rs }
     | .error e => .error e)
  else if frm.family == "inet6" && st.v6.isNone then
    (match tryIntoRanges o .v6 frm with
     | .ok rs => .ok { st with v6 := some rs }
     | .error e => .error e)
  else .error .other

/-- fetch.rs:249-306 the loop over the children of a `<policy-statement>` -/
def instLoop (o : IOracle) : (fuel : Nat) → (endRaw : String) → InstSt → List Ev → Except Err (InstSt × List Ev)
  | 0, _, _, _ => .error .fuel
  | _ + 1, _, _, [] => .error .xml
  | fuel + 1, endRaw, st, ev :: rest =>
    match ev with
    | .error => .error .xml
    | .start t =>
      if t.is XNM "name" && st.name.isNone then
        (match readName o.unescape t rest with
         | .ok (n, r) => instLoop o fuel endRaw { st with name := some n } r
         | .error e => .error e)
      else if t.is XNM "term" then
        (match readTerm fuel t rest with
         | .ok (frm, r) =>
           (match st.addTerm o frm with
            | .ok st' => instLoop o fuel endRaw st' r
            | .error e => .error e)
         | .error e => .error e)
      else if t.is XNM "then" && !st.reject then
        (match instThenLoop fuel t.raw st.reject rest with
         | .ok (rj, r) => instLoop o fuel endRaw { st with reject := rj } r
         | .error e => .error e)
      else .error .unexpected
    | .comment => instLoop o fuel endRaw st rest
    | .end raw => if raw == endRaw then .ok (st, rest) else .error .unexpected
    | _ => .error .unexpected

/-- fetch.rs:307-325 -/
def InstSt.finish (st : InstSt) : Except Err (Option (String × Installed)) :=
  if st.reject then
    match st.name with
    | some n => .ok (some (n, ⟨st.v4.getD [], st.v6.getD []⟩))
    | none => .error .missing
  else .ok none

/-- `Maybe<Installed>::read_xml`, called right after `Start(t)` -/
def readInstalledStmt (o : IOracle) : StmtReader Installed := fun fuel t rest =>
  match instLoop o fuel t.raw {} rest with
  | .error e => .error e
  | .ok (st, r) =>
    match st.finish with
    | .error e => .error e
    | .ok v => .ok (v, r)

/-- `Policies<Installed>::read_xml(reader, start)` with the reader standing right after `<data>`
(`dataRaw` = qualified name of the data element); result in document order -/
def readInstalledEv (o : IOracle) (dataRaw : String) (evs : List Ev) : Except Err (List (String × Installed)) :=
  policiesLoop (readInstalledStmt o) (evs.length + 1) dataRaw none evs

/-- `agent::verif::read_installed(reply_xml)` on the events of the whole reply document -/
def readInstalledDoc (o : IOracle) (evs : List Ev) : Except Err (List (String × Installed)) :=
  readData (fun t rest => readInstalledEv o t.raw rest) evs

end Xml
