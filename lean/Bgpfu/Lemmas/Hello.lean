import Bgpfu.Spec.HelloGrammar
import Bgpfu.Lemmas.Readers
import Bgpfu.Lemmas.CapsExact
/-! The server hello (C12), in five parts: the reader loops refine the child-level semantics of `Spec.HelloGrammar`;
that semantics (where the capabilities of an accepted hello come from, `establish_ok_iff`); a bound on `parseUnsigned`;
`Xml.classifyCapability` is `Caps.classify` under a translation of parts and capabilities, so that what
`Lemmas.CapsExact` proves of the table of `Capability::from_str` holds of the hello reader as well; and what C13 needs
about a comment among the children. -/
namespace Xml

/-! ## the reader loops on grammar documents refine `helloAbs` -/

theorem CapLeaf.render_pos (x : CapLeaf) : 0 < x.render.length := by
  cases x <;> simp [CapLeaf.render, leaf]

theorem HChild.render_pos (x : HChild) : 0 < x.render.length := by
  cases x <;> simp [HChild.render, leaf]

theorem capsLoop_refines (c : RCfg) (o : UriOracle) (cs : List CapLeaf) (hwf : ∀ x ∈ cs, x.WF)
    (fuel : Nat) (raw : String) (acc : List Capability) (rest : List Ev)
    (hf : (cs.flatMap CapLeaf.render).length + 1 ≤ fuel) :
    capsLoop c o fuel raw acc (cs.flatMap CapLeaf.render ++ .end raw :: rest) = liftR (capsAbs c o acc cs) rest := by
  refine refines_of_pass (L := fun f acc => capsLoop c o f raw acc) (abs := capsAbs c o)
    CapLeaf.render_pos (fun f acc => ?_) (fun f acc x cs tail hwx hf ih => ?_) cs hwf fuel acc hf
  · simp only [capsLoop, beq_self_eq_true, if_true, capsAbs, liftR_ok]
  cases x with
  | comment =>
    simp only [CapLeaf.render, List.cons_append, List.nil_append, capsLoop, capsAbs, apply_ite (liftR · rest),
      liftR_error, ih]
  | cap span inner =>
    simp only [CapLeaf.render, leaf_append, capsLoop, capsAbs, baseTag_is, beq_self_eq_true, if_true,
      readText_leaf _ _ _ _ hwx]
    cases parseCapability o (c.tok span) <;> simp only [ih, liftR_error]

theorem helloLoop_refines (c : RCfg) (o : UriOracle) (cs : List HChild) (hwf : ∀ x ∈ cs, x.WF)
    (fuel : Nat) (raw : String) (caps : Option (List Capability)) (sid : Option Nat) (rest : List Ev)
    (hf : (cs.flatMap HChild.render).length + 1 ≤ fuel) :
    helloLoop c o fuel raw caps sid (cs.flatMap HChild.render ++ .end raw :: rest)
      = liftR (helloAbs c o caps sid cs) rest := by
  refine refines_of_pass (L := fun f st => helloLoop c o f raw st.1 st.2) (abs := fun st => helloAbs c o st.1 st.2)
    HChild.render_pos (fun f st => ?_) (fun f st x cs tail hwx hf ih => ?_) cs hwf fuel (caps, sid) hf
  · simp only [helloLoop, beq_self_eq_true, if_true, helloAbs]
    obtain ⟨_ | _, _ | _⟩ := st <;> rfl
  simp only [Prod.forall] at ih
  cases x with
  | comment => simp only [HChild.render, List.cons_append, List.nil_append, helloLoop, helloAbs, ih]
  | sid s inner =>
    simp only [HChild.render, leaf_append, helloLoop, helloAbs, baseTag_is, String.reduceBEq, Bool.false_and,
      Bool.false_eq_true, if_false, beq_self_eq_true, Bool.true_and, readText_leaf _ _ _ _ hwx,
      apply_ite (liftR · rest), liftR_error]
    cases parseSessionId (c.tok s) <;> simp only [ih, liftR_error]
  | caps r ccs =>
    have hc := capsLoop_refines c o ccs hwx f r [] tail
      (by simp only [HChild.render, List.length_cons, List.length_append, List.length_nil] at hf; omega)
    simp only [HChild.render, List.cons_append, List.append_assoc, List.nil_append, helloLoop, helloAbs, Tag.is,
      beq_self_eq_true, Bool.true_and, String.reduceBEq, Bool.false_and, Bool.false_eq_true, if_false, hc,
      apply_ite (liftR · rest), liftR_error]
    cases capsAbs c o [] ccs <;> simp only [liftR_ok, liftR_error, ih]

theorem helloDoc_eq (raw : String) (attrs : List AttrItem) (cs : List HChild) :
    helloDoc raw attrs cs = .start (helloTag raw attrs) :: (cs.flatMap HChild.render ++ .end raw :: [.eof]) := by
  simp [helloDoc, helloTag]

theorem fromXmlHello_doc (c : RCfg) (o : UriOracle) (raw : String) (attrs : List AttrItem) (cs : List HChild)
    (hwf : ∀ x ∈ cs, x.WF) (fuel : Nat) (rest : List Ev) (hf : (cs.flatMap HChild.render).length + 1 ≤ fuel) :
    fromXmlHello c o (fuel + 1) none (.start (helloTag raw attrs) :: (cs.flatMap HChild.render ++ .end raw :: rest))
      = match helloAbs c o none none cs with
        | .error e => .error e
        | .ok h => fromXmlHello c o fuel (some h) rest := by
  rw [fromXmlHello]
  have ht : (helloTag raw attrs).is BASE "hello" = true := by simp [Tag.is, helloTag]
  simp only [ht, Option.isSome_none, Bool.and_false, Bool.not_false, Bool.and_true, if_true]
  rw [show (helloTag raw attrs).raw = raw from rfl, helloLoop_refines c o cs hwf fuel raw none none rest hf]
  cases helloAbs c o none none cs <;> rfl

/-- any other element is unexpected anyway; a second `<hello>` is refused by `oneRoot` -/
theorem fromXmlHello_second_root (c : RCfg) (hc : c.oneRoot = true) (o : UriOracle) (fuel : Nat)
    (v : Hello) (t : Tag) (rest : List Ev) :
    fromXmlHello c o (fuel + 1) (some v) (.start t :: rest) = .error .unexpected := by
  simp [fromXmlHello, hc]

theorem establish_doc (c : RCfg) (adv : Bool) (o : UriOracle) (raw : String) (attrs : List AttrItem)
    (cs : List HChild) (hwf : ∀ x ∈ cs, x.WF) :
    establish c adv o (helloDoc raw attrs cs) = establishAbs c adv o cs := by
  -- `rw` with the equation of `establish`: unfolding it by definitional equality makes the kernel run the reader on
  -- the part of the document that is written out
  rw [establish, establishAbs, helloDoc_eq,
    fromXmlHello_doc c o raw attrs cs hwf _ [.eof] (by simp only [List.length_cons, List.length_append]; omega)]
  cases helloAbs c o none none cs with
  | error e => rfl
  | ok h => simp only [List.length_cons, fromXmlHello]; cases highestCommon (clientAdvertised adv) h.caps <;> rfl

/-! ## the child-level semantics: where the capabilities come from, leading comments, version, establishment -/

theorem capsAbs_mem_iff {c : RCfg} {o : UriOracle} {acc : List Capability} {ccs : List CapLeaf}
    {caps : List Capability} (h : capsAbs c o acc ccs = .ok caps) (k : Capability) :
    k ∈ caps ↔ k ∈ acc ∨ ∃ span inner, CapLeaf.cap span inner ∈ ccs ∧ parseCapability o (c.tok span) = .ok k := by
  induction ccs generalizing acc with
  | nil =>
    simp only [capsAbs, Except.ok.injEq] at h
    simp only [← h, List.not_mem_nil, false_and, exists_false, or_false]
  | cons x xs ih =>
    cases x with
    | comment =>
      simp only [capsAbs] at h
      split at h
      · rw [ih h]
        simp only [List.mem_cons, reduceCtorEq, false_or]
      · cases h
    | cap span inner =>
      simp only [capsAbs] at h
      split at h
      · next v hv =>
        rw [ih h]
        simp only [List.mem_append, List.mem_cons, CapLeaf.cap.injEq, List.not_mem_nil, or_false]
        constructor
        · rintro ((hk | rfl) | ⟨sp, inn, hm, hp⟩)
          · exact .inl hk
          · exact .inr ⟨span, inner, .inl ⟨rfl, rfl⟩, hv⟩
          · exact .inr ⟨sp, inn, .inr hm, hp⟩
        · rintro (hk | ⟨sp, inn, (⟨rfl, rfl⟩ | hm), hp⟩)
          · exact .inl (.inl hk)
          · rw [hv] at hp; cases hp; exact .inl (.inr rfl)
          · exact .inr ⟨sp, inn, hm, hp⟩
      · cases h

theorem helloAbs_caps {c : RCfg} {o : UriOracle} {caps : Option (List Capability)} {sid : Option Nat}
    {cs : List HChild} {h : Hello} (hh : helloAbs c o caps sid cs = .ok h) :
    caps = some h.caps ∨ ∃ r ccs, HChild.caps r ccs ∈ cs ∧ capsAbs c o [] ccs = .ok h.caps := by
  induction cs generalizing caps sid with
  | nil => cases caps <;> cases sid <;> cases hh; exact .inl rfl
  | cons x xs ih =>
    have tail {caps' sid'} (hh : helloAbs c o caps' sid' xs = .ok h) :
        caps' = some h.caps ∨ ∃ r ccs, HChild.caps r ccs ∈ x :: xs ∧ capsAbs c o [] ccs = .ok h.caps :=
      (ih hh).imp_right fun ⟨r, ccs, hm, hc⟩ => ⟨r, ccs, List.mem_cons_of_mem _ hm, hc⟩
    cases x with
    | comment => exact tail hh
    | caps r ccs =>
      simp only [helloAbs] at hh
      split at hh
      · split at hh
        · next v hv =>
          rcases tail hh with h1 | h1
          · cases h1; exact .inr ⟨r, ccs, by simp, hv⟩
          · exact .inr h1
        · cases hh
      · cases hh
    | sid s i =>
      simp only [helloAbs] at hh
      split at hh
      · split at hh
        · exact tail hh
        · cases hh
      · cases hh

def HChild.isComment : HChild → Bool
  | .comment => true
  | _ => false

theorem HChild.WF_of_isComment {x : HChild} (h : x.isComment = true) : x.WF := by
  cases x with
  | comment => trivial
  | caps r l => cases h
  | sid s i => cases h

theorem helloAbs_comments {c : RCfg} {o : UriOracle} {caps : Option (List Capability)} {sid : Option Nat}
    {pre rest : List HChild} (h : ∀ c ∈ pre, c.isComment = true) :
    helloAbs c o caps sid (pre ++ rest) = helloAbs c o caps sid rest := by
  induction pre with
  | nil => rfl
  | cons x cs ih =>
    cases x with
    | comment => simp only [List.cons_append, helloAbs]; exact ih (fun y hy => h y (by simp [hy]))
    | caps r l => cases h (.caps r l) (by simp)
    | sid s i => cases h (.sid s i) (by simp)

theorem highestCommon_eq (client server : List Capability) :
    highestCommon client server =
      if Capability.base11 ∈ client ∧ Capability.base11 ∈ server then some .v11
      else if Capability.base10 ∈ client ∧ Capability.base10 ∈ server then some .v10 else none := by
  simp only [highestCommon, Bool.and_eq_true, List.contains_iff_mem]

/-- `adv = false`: the client advertises `:base:1.0` only, so that is the version -/
theorem establish_ok_iff (c : RCfg) (o : UriOracle) (raw : String) (attrs : List AttrItem) (cs : List HChild)
    (hwf : ∀ x ∈ cs, x.WF) (ctx : Context) :
    establish c false o (helloDoc raw attrs cs) = .ok ctx ↔
      ∃ h, helloAbs c o none none cs = .ok h ∧ Capability.base10 ∈ h.caps
        ∧ ctx = { sid := h.sid, version := .v10, serverCaps := h.caps } := by
  rw [establish_doc c false o raw attrs cs hwf, establishAbs]
  cases helloAbs c o none none cs with
  | error e => simp
  | ok h =>
    simp only [highestCommon_eq, clientAdvertised, Bool.false_eq_true, if_false, List.mem_singleton, reduceCtorEq, false_and,
      true_and, Except.ok.injEq, exists_eq_left']
    by_cases hb : Capability.base10 ∈ h.caps
    · simp only [hb, if_true, Except.ok.injEq, true_and]; exact eq_comm
    · simp [hb]

/-! ## `parseUnsigned` of `Model/Xml`, for the session-id (`sessionId_valid`, C12) -/

theorem parseUnsigned_lt {b : Nat} {s : String} {n : Nat} (h : parseUnsigned b s = some n) : n < b := by
  unfold parseUnsigned at h
  simp only at h
  generalize stripPlus s.toList = ds at h
  by_cases he : ds.isEmpty = true
  · simp [he] at h
  · simp only [he, Bool.false_eq_true, if_false] at h
    cases hd : digitsVal ds 0 with
    | none => simp [hd] at h
    | some m =>
      simp only [hd] at h
      by_cases hm : m < b
      · simp only [hm, if_true, Option.some.injEq] at h; omega
      · simp [hm] at h

/-! ## the two models of `Capability::from_str` agree

`Capability::from_str` is modelled twice, each property having a model of its own: for C09 on `List Char`, beside the
builders (`Caps.classify`, `Model/Caps`), for C12 on `String`, inside the event-level hello reader
(`classifyCapability`, `Model/Hello`, with the unescaped query as an annotation of the parts). The table is specified
once, in `Lemmas.CapsExact`; the bridge `classify_toCaps` (under `toCaps` the two are the same function) is what relates
the models and carries every fact across. -/

theorem splitOnChar_eq (c : Char) (l : List Char) : splitOnChar c l = Caps.splitOn c l := by
  induction l with
  | nil => rfl
  | cons x xs ih =>
    simp only [splitOnChar, Caps.splitOn, ih, beq_iff_eq]
    split
    · rfl
    · cases Caps.splitOn c xs <;> rfl

theorem splitOnce_eq (c : Char) (l : List Char) : splitOnce c l = Caps.splitOnce c l := by
  induction l with
  | nil => rfl
  | cons x xs ih => simp only [splitOnce, Caps.splitOnce, ih, beq_iff_eq]

theorem urlSchemes_toCaps (q : String) : (urlSchemes q).map String.toList = Caps.urlSchemes q.toList := by
  unfold urlSchemes Caps.urlSchemes
  rw [List.map_flatMap, splitOnChar_eq]
  congr 1
  funext pair
  rw [splitOnce_eq]
  cases Caps.splitOnce '=' pair with
  | none => rfl
  | some kv =>
    obtain ⟨k, v⟩ := kv
    simp only [splitOnChar_eq, beq_iff_eq]
    split
    · simp
    · rfl

theorem mem_urlSchemes_toList (q x : String) : x ∈ urlSchemes q ↔ x.toList ∈ Caps.urlSchemes q.toList := by
  rw [← urlSchemes_toCaps, List.mem_map]
  exact ⟨fun h => ⟨x, h, rfl⟩, fun ⟨_, h, e⟩ => String.toList_inj.1 e ▸ h⟩

/-- the five components are exactly these: in particular **no** query and **no** fragment — a
present but empty one (`some ""`, as in `…base:1.0#` or `…base:1.0?`) does not qualify.
(`queryUnesc` is an annotation of the query and plays no part.) -/
def UriParts.Is (u : UriParts) (scheme : String) (authority : Option String) (path : String) : Prop :=
  u.scheme = scheme ∧ u.authority = authority ∧ u.path = path ∧ u.query = none ∧ u.fragment = none

instance (u : UriParts) (s : String) (a : Option String) (pa : String) : Decidable (u.Is s a pa) := by
  unfold UriParts.Is; infer_instance

def Capability.toCaps : Capability → Caps.Capability
  | .base10 => .base10 | .base11 => .base11 | .writableRunning => .writableRunning
  | .candidate => .candidate | .confirmedCommit10 => .confirmedCommit10
  | .confirmedCommit11 => .confirmedCommit11 | .rollbackOnError => .rollbackOnError
  | .validate10 => .validate10 | .validate11 => .validate11 | .startup => .startup
  | .url l => .url (l.map String.toList) | .xpath => .xpath | .junos => .junos
  | .unknown s => .unknown s.toList

/-- the query `Caps.classify` splits is the unescaped one -/
def UriParts.toCaps (u : UriParts) : Caps.UriParts :=
  { scheme := u.scheme.toList, authority := u.authority.map String.toList, path := u.path.toList,
    query := if u.query.isSome then some (u.queryUnesc.getD "").toList else none,
    fragment := u.fragment.map String.toList }

theorem toList_beq (a b : String) : (a.toList == b.toList) = (a == b) := by
  rw [Bool.eq_iff_iff]; simp [String.toList_inj]

theorem map_toList_beq_none (a : Option String) : (a.map String.toList == none) = a.isNone := by
  cases a <;> rfl

theorem map_toList_beq_some (a : Option String) (b : String) :
    (a.map String.toList == some b.toList) = (a == some b) := by
  cases a with
  | none => rfl
  | some x => rw [Bool.eq_iff_iff]; simp [String.toList_inj]

theorem classify_toCaps (s : String) (u : UriParts) :
    (classifyCapability s u).toCaps = Caps.classify s.toList u.toCaps := by
  obtain ⟨sc, au, pa, qu, fr, qe⟩ := u
  unfold classifyCapability Caps.classify UriParts.toCaps
  dsimp only
  simp only [apply_ite Capability.toCaps]
  simp only [Capability.toCaps, urlSchemes_toCaps, toList_beq, map_toList_beq_none,
    map_toList_beq_some, Caps.urnCap_table]
  cases h : (sc == "urn") with
  | false =>
    -- no `urn`: all arms but the last two fail on both sides
    cases qu <;> simp
  | true =>
    cases qu with
    | some q =>
      -- a `urn` with a query: the conditions of the two chains agree up to the order of their conjuncts
      simp [and_right_comm]
    | none =>
      -- a `urn` without query. Here alone the chains differ: `Caps.classify` takes its `:url:1.0` arm without looking
      -- at the query and answers `Unknown` inside it, `classifyCapability` passes the arm by and reaches `Unknown` at
      -- the end. `simp` brings the conditions to the same form; what it leaves is that arm
      simp
      by_cases hp : pa = "ietf:params:netconf:capability:url:1.0"
      · subst hp; simp
      · simp [hp]

def Capability.ofCaps : Caps.Capability → Capability
  | .base10 => .base10 | .base11 => .base11 | .writableRunning => .writableRunning
  | .candidate => .candidate | .confirmedCommit10 => .confirmedCommit10
  | .confirmedCommit11 => .confirmedCommit11 | .rollbackOnError => .rollbackOnError
  | .validate10 => .validate10 | .validate11 => .validate11 | .startup => .startup
  | .url l => .url (l.map String.ofList) | .xpath => .xpath | .junos => .junos
  | .unknown s => .unknown (String.ofList s)

theorem ofCaps_toCaps (c : Capability) : .ofCaps c.toCaps = c := by
  cases c <;> simp [Capability.toCaps, Capability.ofCaps]

theorem toCaps_inj (c k : Capability) : c.toCaps = k.toCaps ↔ c = k :=
  ⟨fun h => by rw [← ofCaps_toCaps c, h, ofCaps_toCaps], congrArg _⟩

theorem toCaps_is (u : UriParts) (sc : String) (au : Option String) (pa : String) :
    u.toCaps.Is sc au pa ↔ u.Is sc au pa := by
  have inj : ∀ x y : String, x.toList = y.toList → x = y := fun _ _ => String.toList_inj.1
  obtain ⟨s, a, p, q, f, qe⟩ := u
  cases q <;> cases f <;>
    simp [UriParts.toCaps, Caps.UriParts.Is, UriParts.Is, String.toList_inj, Option.map_inj_right inj]

theorem classify_eq_iff {k : Capability} {sc au pa} (hk : k.toCaps.exact = some (sc, au, pa)) (s : String) (u : UriParts) :
    classifyCapability s u = k ↔ u.Is sc au pa := by
  rw [← toCaps_inj, classify_toCaps, Caps.classify_eq_iff hk, toCaps_is]

theorem classify_eq_url_iff (s : String) (u : UriParts) (l : List String) :
    classifyCapability s u = .url l ↔ isUrlCap u = true ∧ l = urlSchemes (u.queryUnesc.getD "") := by
  have inj : ∀ x y : String, x.toList = y.toList → x = y := fun _ _ => String.toList_inj.1
  rw [← toCaps_inj, classify_toCaps, Capability.toCaps, Caps.classify_eq_url_iff]
  obtain ⟨sc, au, pa, qu, fr, qe⟩ := u
  cases qu <;>
    simp [-String.reduceToList, UriParts.toCaps, isUrlCap, String.toList_inj, ← urlSchemes_toCaps, List.map_inj_right inj,
      and_assoc, and_left_comm]

theorem classify_of_fragment {s : String} {u : UriParts} (h : u.fragment ≠ none) : classifyCapability s u = .unknown s :=
  (toCaps_inj _ _).1 ((classify_toCaps s u).trans
    (Caps.classify_of_fragment (by simpa [UriParts.toCaps] using h)))

theorem classify_eq_unknown {s : String} {u : UriParts}
    (hex : ∀ k sc au pa, Caps.Capability.exact k = some (sc, au, pa) → ¬ u.Is sc au pa)
    (hurl : u.path ≠ "ietf:params:netconf:capability:url:1.0") : classifyCapability s u = .unknown s :=
  (toCaps_inj _ _).1 ((classify_toCaps s u).trans
    (Caps.classify_eq_unknown (fun k sc au pa hk h => hex k sc au pa hk ((toCaps_is u sc au pa).1 h))
      (fun h => hurl (String.toList_inj.1 h))))

theorem parseCapability_exact_iff {k : Capability} {sc au pa} (hk : k.toCaps.exact = some (sc, au, pa))
    (o : UriOracle) (s : String) : parseCapability o s = .ok k ↔ ∃ u, o s = some u ∧ u.Is sc au pa := by
  unfold parseCapability
  cases ho : o s with
  | none => simp
  | some u =>
    simp only [Option.some.injEq, exists_eq_left']
    split
    · next hc =>
      -- the error of the `:url:1.0` arm: its text has a query, an exact capability has none
      simp only [isUrlCap, Bool.and_eq_true] at hc
      exact ⟨nofun, fun h => by simp [h.2.2.2.1] at hc⟩
    · simp [classify_eq_iff hk]

theorem base10_mem_capsAbs_iff {c : RCfg} {o : UriOracle} {ccs : List CapLeaf} {caps : List Capability}
    (h : capsAbs c o [] ccs = .ok caps) :
    Capability.base10 ∈ caps ↔ ∃ span inner u, CapLeaf.cap span inner ∈ ccs ∧ o (c.tok span) = some u ∧
      u.Is "urn" none "ietf:params:netconf:base:1.0" := by
  rw [capsAbs_mem_iff h]
  simp only [List.not_mem_nil, false_or, parseCapability_exact_iff (k := .base10) rfl]
  constructor
  · rintro ⟨span, inner, hm, u, hu, hi⟩; exact ⟨span, inner, u, hm, hu, hi⟩
  · rintro ⟨span, inner, u, hm, hu, hi⟩; exact ⟨span, inner, hm, u, hu, hi⟩

/-! ## a comment among the children (C13) -/

theorem capsAbs_comment (c : RCfg) (hc : c.capsComment = true) (o : UriOracle) (acc : List Capability) (a b : List CapLeaf) :
    capsAbs c o acc (a ++ .comment :: b) = capsAbs c o acc (a ++ b) := by
  induction a generalizing acc with
  | nil => simp [capsAbs, hc]
  | cons x xs ih =>
    cases x with
    | comment => simp only [List.cons_append, capsAbs, hc, if_true, ih]
    | cap s i => simp only [List.cons_append, capsAbs]; split <;> simp [ih]

theorem helloAbs_child_comment (c : RCfg) (o : UriOracle) (caps : Option (List Capability)) (sid : Option Nat) (a b : List HChild) :
    helloAbs c o caps sid (a ++ .comment :: b) = helloAbs c o caps sid (a ++ b) := by
  induction a generalizing caps sid with
  | nil => rfl
  | cons x xs ih =>
    cases x <;> simp only [List.cons_append, helloAbs, ih]

theorem helloAbs_caps_comment (c : RCfg) (hc : c.capsComment = true) (o : UriOracle) (caps : Option (List Capability))
    (sid : Option Nat) (pre post : List HChild) (r : String) (a b : List CapLeaf) :
    helloAbs c o caps sid (pre ++ .caps r (a ++ .comment :: b) :: post)
      = helloAbs c o caps sid (pre ++ .caps r (a ++ b) :: post) := by
  induction pre generalizing caps sid with
  | nil => simp only [List.nil_append, helloAbs, capsAbs_comment c hc]
  | cons x xs ih =>
    cases x <;> simp only [List.cons_append, helloAbs, ih]

end Xml
