import Bgpfu.Lemmas.Readers
/-! What the child-level semantics of the four reply readers (`emptyAbs`, `dataAbs`, `bareAbs`, `loadAbs`)
guarantee about their result: `replyAbs_post`, of which the three parts of C08 are special cases. At the end:
each of them skips a comment between children (the `_comment` lemmas, for C13). -/
namespace Xml

theorem hasErrorSeverity_cons (e : RpcError) (es : List RpcError) :
    hasErrorSeverity (e :: es) = (e.severity == .error || hasErrorSeverity es) := rfl

theorem hasErrorSeverity_append (a b : List RpcError) :
    hasErrorSeverity (a ++ b) = (hasErrorSeverity a || hasErrorSeverity b) := by
  simp [hasErrorSeverity, List.any_append]

/-- all rpc-errors the load reader can descend into: those inside results elements -/
def innerErrs (cs : List Top) : List RpcError :=
  cs.flatMap fun | .results _ ics => ics.filterMap Inner.errValue? | _ => []

def hasOkResults (cs : List Top) : Prop := ∃ r ics, Top.results r ics ∈ cs ∧ Inner.ok ∈ ics

theorem innerErrs_nil : innerErrs [] = [] := rfl

theorem innerErrs_results (r : String) (ics : List Inner) (cs : List Top) :
    innerErrs (.results r ics :: cs) = ics.filterMap Inner.errValue? ++ innerErrs cs := rfl

/-- is there an `rpc-error` of severity `error` anywhere the grammar allows one -/
def errorSeverityInReply (cs : List Top) : Bool :=
  cs.any fun
    | .err e => e.sev == .error
    | .results _ ics => ics.any Inner.isErrorSeverity
    | _ => false

def positiveIndication : ReplyKind → List Top → Prop
  | .empty, cs => Top.ok ∈ cs
  | .data, cs => ∃ s i, Top.data s i ∈ cs
  | .bare, _ => True
  | .load, cs => hasOkResults cs

/-- the rpc-errors of a reply, in document order, as the reader of kind `k` reports them -/
def reportedErrors : ReplyKind → List Top → List RpcError
  | .load, cs => innerErrs cs
  | _, cs => cs.filterMap Top.errValue?

theorem any_isErrorSeverity (ics : List Inner) :
    ics.any Inner.isErrorSeverity = hasErrorSeverity (ics.filterMap Inner.errValue?) := by
  induction ics with
  | nil => rfl
  | cons x xs ih =>
    cases x <;> simp only [List.any_cons, ih, Inner.isErrorSeverity, Inner.errValue?, List.filterMap_cons,
      hasErrorSeverity_cons, Bool.false_or, ErrSpec.value]

theorem errorSeverityInReply_eq (cs : List Top) :
    errorSeverityInReply cs = (hasErrorSeverity (cs.filterMap Top.errValue?) || hasErrorSeverity (innerErrs cs)) := by
  induction cs with
  | nil => rfl
  | cons x xs ih =>
    unfold errorSeverityInReply at ih ⊢
    rw [List.any_cons, ih]
    cases x with
    | results r ics =>
      simp only [innerErrs_results, hasErrorSeverity_append, any_isErrorSeverity, List.filterMap_cons, Top.errValue?,
        Bool.or_left_comm]
    | err e => simp only [List.filterMap_cons, Top.errValue?, hasErrorSeverity_cons, ErrSpec.value, Bool.or_assoc]; rfl
    | _ => simp only [Bool.false_or, List.filterMap_cons, Top.errValue?]; rfl

def Clean (cs : List Top) : Prop := cs.filterMap Top.errValue? = [] ∧ innerErrs cs = []

theorem Clean.cons {c : Top} {cs : List Top} (h : Clean cs) (h1 : c.errValue? = none)
    (h2 : ∀ r ics, c ≠ .results r ics) : Clean (c :: cs) := by
  refine ⟨by rw [List.filterMap_cons, h1]; exact h.1, ?_⟩
  cases c with
  | results r ics => exact absurd rfl (h2 r ics)
  | _ => exact h.2

theorem hasOkResults_cons {c : Top} {cs : List Top} (h : hasOkResults cs) : hasOkResults (c :: cs) :=
  h.imp fun _ h => h.imp fun _ h => ⟨List.mem_cons_of_mem _ h.1, h.2⟩

/-! One post-condition per reader, for any state it may be in, proved along the reader's recursion: the
post-condition of the rest of the children, in the state the first child leaves, gives that of all
children (`body_post`: one implication per form of result). -/

theorem except_post {α : Type} {P Q : Except Err α → Prop} {r : Except Err α} (h : P r)
    (hok : ∀ a, P (.ok a) → Q (.ok a)) (herr : ∀ e, Q (.error e)) : Q r := by
  cases r with
  | error e => exact herr e
  | ok a => exact hok a h

theorem body_post {P Q : Except Err Body → Prop} {r : Except Err Body} (h : P r)
    (hok : P (.ok .ok) → Q (.ok .ok)) (hdata : ∀ s, P (.ok (.data s)) → Q (.ok (.data s)))
    (herrs : ∀ es, P (.ok (.errs es)) → Q (.ok (.errs es))) (herr : ∀ e, Q (.error e)) : Q r := by
  rcases r with e | (_ | s | es)
  · exact herr e
  · exact hok h
  · exact hdata s h
  · exact herrs es h

def EmptyPost (th : Bool) (errors : List RpcError) (cs : List Top) : Except Err Body → Prop
  | .ok .ok => Clean cs ∧ (th = true ∨ (errors = [] ∧ Top.ok ∈ cs))
  | .ok (.errs es) => es = errors ++ cs.filterMap Top.errValue? ∧ es ≠ [] ∧ th = false
  | .ok (.data _) => False
  | .error _ => True

theorem emptyAbs_post (th : Bool) (errors : List RpcError) (cs : List Top) :
    EmptyPost th errors cs (emptyAbs th errors cs) := by
  induction cs generalizing th errors with
  | nil => cases th <;> cases errors <;> simp [emptyAbs, EmptyPost, Clean, innerErrs_nil]
  | cons c cs ih =>
    cases c with
    | comment =>
      exact body_post (ih th errors)
        (fun h => ⟨h.1.cons rfl nofun, h.2.imp_right (And.imp_right (List.mem_cons_of_mem _))⟩)
        (fun _ => id) (fun _ => id) (fun _ => trivial)
    | ok =>
      cases th
      · cases errors with
        | cons e es => trivial
        | nil =>
          exact body_post (ih true []) (fun h => ⟨h.1.cons rfl nofun, .inr ⟨rfl, List.mem_cons_self⟩⟩)
            (fun _ => id) (fun es h => nomatch h.2.2) (fun _ => trivial)
      · trivial
    | err e =>
      cases th
      · exact body_post (ih false (errors ++ [e.value]))
          (fun h => h.2.elim nofun fun h => absurd h.1 (by simp))
          (fun _ => id) (fun es h => ⟨by rw [h.1, List.append_assoc]; rfl, h.2⟩) (fun _ => trivial)
      · trivial
    | data s i => trivial
    | results r i => trivial

def DataPost (th : Option String) (errors : List RpcError) (cs : List Top) : Except Err Body → Prop
  | .ok (.data s) => Clean cs ∧ (th = some s ∨ (th = none ∧ errors = [] ∧ ∃ i, Top.data s i ∈ cs))
  | .ok (.errs es) => es = errors ++ cs.filterMap Top.errValue? ∧ es ≠ [] ∧ th = none
  | .ok .ok => False
  | .error _ => True

theorem dataAbs_post (th : Option String) (errors : List RpcError) (cs : List Top) :
    DataPost th errors cs (dataAbs th errors cs) := by
  induction cs generalizing th errors with
  | nil => cases th <;> cases errors <;> simp [dataAbs, DataPost, Clean, innerErrs_nil]
  | cons c cs ih =>
    cases c with
    | comment =>
      exact body_post (ih th errors) id
        (fun s h => ⟨h.1.cons rfl nofun, h.2.imp_right fun h => ⟨h.1, h.2.1, h.2.2.imp fun _ => List.mem_cons_of_mem _⟩⟩)
        (fun _ => id) (fun _ => trivial)
    | data s i =>
      cases th with
      | some v => trivial
      | none =>
        cases errors with
        | cons e es => trivial
        | nil =>
          exact body_post (ih (some s) []) id
            (fun s' h => ⟨h.1.cons rfl nofun,
              h.2.elim (fun h => .inr ⟨rfl, rfl, i, by cases h; exact List.mem_cons_self⟩) (fun h => nomatch h.1)⟩)
            (fun es h => nomatch h.2.2) (fun _ => trivial)
    | err e =>
      cases th with
      | some v => trivial
      | none =>
        exact body_post (ih none (errors ++ [e.value])) id
          (fun s h => h.2.elim nofun fun h => absurd h.2.1 (by simp))
          (fun es h => ⟨by rw [h.1, List.append_assoc]; rfl, h.2⟩) (fun _ => trivial)
    | ok => trivial
    | results r i => trivial

def BarePost (errors : List RpcError) (cs : List Top) : Except Err Body → Prop
  | .ok .ok => Clean cs ∧ errors = []
  | .ok (.errs es) => es = errors ++ cs.filterMap Top.errValue? ∧ es ≠ []
  | .ok (.data _) => False
  | .error _ => True

theorem bareAbs_post (errors : List RpcError) (cs : List Top) :
    BarePost errors cs (bareAbs errors cs) := by
  induction cs generalizing errors with
  | nil => cases errors <;> simp [bareAbs, BarePost, Clean, innerErrs_nil]
  | cons c cs ih =>
    cases c with
    | comment =>
      exact body_post (ih errors) (fun h => ⟨h.1.cons rfl nofun, h.2⟩) (fun _ => id) (fun _ => id) (fun _ => trivial)
    | err e =>
      exact body_post (ih (errors ++ [e.value])) (fun h => absurd h.2 (by simp)) (fun _ => id)
        (fun es h => ⟨by rw [h.1, List.append_assoc]; rfl, h.2⟩) (fun _ => trivial)
    | ok => trivial
    | data s i => trivial
    | results r i => trivial

/-- the second conjunct: once `this` is on the loop accepts nothing but comments. The last implication,
`c.loadOkGuard = true → ..`, is the guard that /repo has now and the pinned snapshot lacks -/
def LoadInnerPost (c : RCfg) (st : LoadSt) (cs : List Inner) : Except Err LoadSt → Prop
  | .ok st' => st'.errors = st.errors ++ cs.filterMap Inner.errValue? ∧
      (st.this = true → st' = st ∧ cs.filterMap Inner.errValue? = []) ∧
      (st.this = false → st'.this = true → Inner.ok ∈ cs ∧ (c.loadOkGuard = true → hasErrorSeverity st'.errors = false))
  | .error _ => True

theorem loadInnerAbs_post (c : RCfg) (st : LoadSt) (cs : List Inner) :
    LoadInnerPost c st cs (loadInnerAbs c st cs) := by
  induction cs generalizing st with
  | nil => exact ⟨(List.append_nil _).symm, fun _ => ⟨rfl, rfl⟩, fun h h' => absurd (h.symm.trans h') nofun⟩
  | cons x cs ih =>
    cases x with
    | comment =>
      exact except_post (ih st)
        (fun st' h => ⟨h.1, h.2.1, fun a b => ⟨List.mem_cons_of_mem _ (h.2.2 a b).1, (h.2.2 a b).2⟩⟩) (fun _ => trivial)
    | ok =>
      simp only [loadInnerAbs]
      split
      · rename_i hg
        have hth : st.this = false := by simpa using (Bool.and_eq_true_iff.mp hg).1
        refine except_post (ih { st with this := true }) (fun st' h => ?_) (fun _ => trivial)
        obtain ⟨rfl, he⟩ := h.2.1 rfl
        exact ⟨h.1, fun h => absurd (hth.symm.trans h) nofun,
          fun _ _ => ⟨List.mem_cons_self, fun hc => by simpa [hc] using (Bool.and_eq_true_iff.mp hg).2⟩⟩
      · trivial
    | err e =>
      simp only [loadInnerAbs]
      split
      · rename_i hg
        have hth : st.this = false := by simpa using hg
        exact except_post (ih { st with errors := st.errors ++ [e.value] })
          (fun st' h => ⟨by rw [h.1, List.append_assoc]; rfl, fun h => absurd (hth.symm.trans h) nofun,
            fun a b => ⟨List.mem_cons_of_mem _ (h.2.2 a b).1, (h.2.2 a b).2⟩⟩) (fun _ => trivial)
      · trivial
    | count s i =>
      simp only [loadInnerAbs]
      split
      · rename_i hg
        have hth : st.this = false := by simpa using hg
        split
        · rename_i n _
          exact except_post (ih { st with count := some n })
            (fun st' h => ⟨h.1, fun h => absurd (hth.symm.trans h) nofun,
              fun a b => ⟨List.mem_cons_of_mem _ (h.2.2 a b).1, (h.2.2 a b).2⟩⟩) (fun _ => trivial)
        · trivial
      · trivial

theorem loadInnerAbs_this_mono (c : RCfg) (st st' : LoadSt) (cs : List Inner)
    (h : loadInnerAbs c st cs = .ok st') (hth : st'.this = false) : st.this = false := by
  have := loadInnerAbs_post c st cs
  rw [h] at this
  cases h0 : st.this with
  | false => rfl
  | true => rw [(this.2.1 h0).1, h0] at hth; cases hth

/-- `cs.filterMap Top.errValue? = []`: `<rpc-reply>` itself has no rpc-error child (the load reader rejects one);
`innerErrs cs`: the errors inside the results elements -/
def LoadPost (st : LoadSt) (cs : List Top) : Except Err Body → Prop
  | .ok .ok => cs.filterMap Top.errValue? = [] ∧ (st.this = true → innerErrs cs = []) ∧
      (st.this = false → hasErrorSeverity (st.errors ++ innerErrs cs) = false ∧ hasOkResults cs)
  | .ok (.errs es) => cs.filterMap Top.errValue? = [] ∧ es = st.errors ++ innerErrs cs ∧ st.this = false
  | .ok (.data _) => False
  | .error _ => True

theorem loadAbs_post (c : RCfg) (hc : c.loadOkGuard = true) (st : LoadSt) (cs : List Top) :
    LoadPost st cs (loadAbs c st cs) := by
  induction cs generalizing st with
  | nil =>
    simp only [loadAbs]
    split
    · rename_i hth
      exact ⟨rfl, fun _ => rfl, fun h => absurd (hth.symm.trans h) nofun⟩
    · rename_i hth
      split
      · split
        · exact ⟨rfl, (List.append_nil _).symm, by simpa using hth⟩
        · trivial
      · trivial
  | cons x cs ih =>
    cases x with
    | comment =>
      exact body_post (ih st) (fun h => ⟨h.1, h.2.1, fun a => ⟨(h.2.2 a).1, hasOkResults_cons (h.2.2 a).2⟩⟩)
        (fun _ => id) (fun _ => id) (fun _ => trivial)
    | results r ics =>
      simp only [loadAbs]
      cases hth : st.this with
      | true => trivial
      | false =>
        simp only [Bool.not_false, if_true]
        have hp := loadInnerAbs_post c st ics
        cases hi : loadInnerAbs c st ics with
        | error e => trivial
        | ok st' =>
          rw [hi] at hp
          have he : st.errors ++ innerErrs (.results r ics :: cs) = st'.errors ++ innerErrs cs := by
            rw [innerErrs_results, hp.1, List.append_assoc]
          refine body_post (ih st') (fun h => ⟨h.1, fun h' => absurd (hth.symm.trans h') nofun, fun _ => ?_⟩)
            (fun _ => id) (fun es h => ⟨h.1, by rw [he]; exact h.2.1, hth⟩) (fun _ => trivial)
          rw [he]
          cases hth' : st'.this with
          | true =>
            rw [h.2.1 hth', List.append_nil]
            exact ⟨(hp.2.2 hth hth').2 hc, r, ics, List.mem_cons_self, (hp.2.2 hth hth').1⟩
          | false => exact ⟨(h.2.2 hth').1, hasOkResults_cons (h.2.2 hth').2⟩
    | ok => trivial
    | err e => trivial
    | data s i => trivial

/-- what every reply reader guarantees in /repo now (`replyAbs_post` needs `c.loadOkGuard`): reported errors are those
of the reply, in order, and there is one unless the load reader reports a count of 0; a success
carries no error of severity `error` and has the positive indication of its reply type -/
def ReplyPost (k : ReplyKind) (cs : List Top) : Outcome → Prop
  | .rpcError es => es = reportedErrors k cs ∧ (k ≠ .load → es ≠ [])
  | .err _ => True
  | _ => errorSeverityInReply cs = false ∧ positiveIndication k cs

theorem replyAbs_post (c : RCfg) (hc : c.loadOkGuard = true) (k : ReplyKind) (cs : List Top) :
    ReplyPost k cs (outcomeOf (replyAbs c k cs)) := by
  have clean : ∀ {cs}, Clean cs → errorSeverityInReply cs = false := fun h => by
    rw [errorSeverityInReply_eq, h.1, h.2]; rfl
  have post {P : Except Err Body → Prop} {r} (h : P r) := body_post (Q := fun r => ReplyPost k cs (outcomeOf r)) h
  cases k
  · exact post (emptyAbs_post false [] cs) (fun h => ⟨clean h.1, h.2.elim nofun (·.2)⟩) (fun _ => False.elim)
      (fun es h => ⟨h.1, fun _ => h.2.1⟩) (fun _ => trivial)
  · exact post (dataAbs_post none [] cs) False.elim
      (fun s h => ⟨clean h.1, h.2.elim nofun fun h => ⟨s, h.2.2⟩⟩) (fun es h => ⟨h.1, fun _ => h.2.1⟩) (fun _ => trivial)
  · exact post (bareAbs_post [] cs) (fun h => ⟨clean h.1, trivial⟩) (fun _ => False.elim)
      (fun es h => ⟨h.1, fun _ => h.2⟩) (fun _ => trivial)
  · exact post (loadAbs_post c hc {} cs)
      (fun h => ⟨by rw [errorSeverityInReply_eq, h.1]; exact (h.2.2 rfl).1, (h.2.2 rfl).2⟩) (fun _ => False.elim)
      (fun es h => ⟨h.2.1, nofun⟩) (fun _ => trivial)

theorem ReplyPost.of_success {k : ReplyKind} {cs : List Top} {o : Outcome} (h : ReplyPost k cs o)
    (hs : o.isSuccess = true) : errorSeverityInReply cs = false ∧ positiveIndication k cs := by
  cases o with
  | ok => exact h
  | data s => exact h
  | rpcError es => cases hs
  | err e => cases hs

theorem emptyAbs_comment (th : Bool) (es : List RpcError) (a b : List Top) :
    emptyAbs th es (a ++ .comment :: b) = emptyAbs th es (a ++ b) := by
  induction a generalizing th es with
  | nil => rfl
  | cons x xs ih => cases x <;> simp only [List.cons_append, emptyAbs, ih]

theorem dataAbs_comment (th : Option String) (es : List RpcError) (a b : List Top) :
    dataAbs th es (a ++ .comment :: b) = dataAbs th es (a ++ b) := by
  induction a generalizing th es with
  | nil => rfl
  | cons x xs ih => cases x <;> simp only [List.cons_append, dataAbs, ih]

theorem bareAbs_comment (es : List RpcError) (a b : List Top) :
    bareAbs es (a ++ .comment :: b) = bareAbs es (a ++ b) := by
  induction a generalizing es with
  | nil => rfl
  | cons x xs ih => cases x <;> simp only [List.cons_append, bareAbs, ih]

theorem loadInnerAbs_comment (c : RCfg) (st : LoadSt) (a b : List Inner) :
    loadInnerAbs c st (a ++ .comment :: b) = loadInnerAbs c st (a ++ b) := by
  induction a generalizing st with
  | nil => rfl
  | cons x xs ih =>
    cases x <;> simp only [List.cons_append, loadInnerAbs, ih]

theorem loadAbs_comment (c : RCfg) (st : LoadSt) (a b : List Top) :
    loadAbs c st (a ++ .comment :: b) = loadAbs c st (a ++ b) := by
  induction a generalizing st with
  | nil => rfl
  | cons x xs ih =>
    cases x <;> simp only [List.cons_append, loadAbs, ih]

theorem loadAbs_inner_comment (c : RCfg) (st : LoadSt) (pre post : List Top) (r : String) (a b : List Inner) :
    loadAbs c st (pre ++ .results r (a ++ .comment :: b) :: post) = loadAbs c st (pre ++ .results r (a ++ b) :: post) := by
  induction pre generalizing st with
  | nil => simp only [List.nil_append, loadAbs, loadInnerAbs_comment]
  | cons x xs ih =>
    cases x <;> simp only [List.cons_append, loadAbs, ih]

end Xml
