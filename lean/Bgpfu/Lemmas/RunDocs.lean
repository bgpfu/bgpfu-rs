import Bgpfu.Lemmas.RunPhases
import Bgpfu.Lemmas.Readers
/-!
The phase program of `Model/Run.lean` against a server that answers with reply *documents*:
"acknowledged" is what the reply reader (`Xml.readMessage`) makes of the document.
`runDocsPhases` is a second runner beside `runPhases`: the same phase list and the same shape (send a
phase, await its replies in order, stop at the first failure), with the fault script (`awaitOk`,
`sendFails`) replaced by `ackDoc`, and no connection faults.  No theorem relates the two runners.
-/
namespace Run
open Xml

/-- the reply type of each request of the run (`type Reply = …` of the operation) -/
def Req.kind : Req → ReplyKind
  | .openDb => .bare          -- junos/open_configuration.rs: BareReply
  | .getRunning => .data      -- get_config.rs: DataReply
  | .getCandidate => .data
  | .load _ => .load          -- junos/load_configuration.rs: its own Reply
  | .commit => .empty         -- junos/commit_configuration.rs: EmptyReply
  | .closeDb => .bare         -- junos/mod.rs: BareReply
  | .closeSession => .empty   -- close_session.rs: EmptyReply

/-- is `evs` a positive acknowledgement of request `r`? (`.await?` on the reply future, then `into_result()?`) -/
def ackDoc (r : Req) (evs : List Ev) : Bool := (readMessage .fixed r.kind evs).isSuccess

/-- awaiting the replies of one phase in order; `start` = number of requests sent before this phase -/
def ackAll (docs : Nat → List Ev) : (start : Nat) → List Req → Bool
  | _, [] => true
  | start, r :: rs => ackDoc r (docs (start + 1)) && ackAll docs (start + 1) rs

/-- the phase program against a server that answers the request at position `p` with `docs p` -/
def runDocsPhases (docs : Nat → List Ev) : List (List Req) → (start : Nat) → (trace : List Req) → List Req × Bool
  | [], _, trace => (trace, true)
  | ph :: rest, start, trace =>
    if ackAll docs start ph then runDocsPhases docs rest (start + ph.length) (trace ++ ph)
    else (trace ++ ph, false)

def runDocs (n : Nat) (docs : Nat → List Ev) : List Req × Bool := runDocsPhases docs (phases n) 0 []

theorem ackAll_iff (docs : Nat → List Ev) (start : Nat) (l : List Req) :
    ackAll docs start l = true ↔ ∀ j, (h : j < l.length) → ackDoc l[j] (docs (start + 1 + j)) = true := by
  induction l generalizing start with
  | nil => simp [ackAll]
  | cons r rs ih =>
    simp only [ackAll, Bool.and_eq_true, ih, List.length_cons, Nat.add_right_comm _ 1]
    constructor
    · rintro ⟨h0, hr⟩ (_ | j) hj
      · exact h0
      · exact hr j (by omega)
    · exact fun h => ⟨h 0 (by omega), fun j hj => h (j + 1) (by omega)⟩

theorem runDocsPhases_ok_cons (docs : Nat → List Ev) (ph : List Req) (rest : List (List Req)) (start : Nat)
    (trace : List Req) :
    (runDocsPhases docs (ph :: rest) start trace).2 = true ↔
      ackAll docs start ph = true ∧ (runDocsPhases docs rest (start + ph.length) (trace ++ ph)).2 = true := by
  simp only [runDocsPhases]
  split <;> simp [*]

theorem runDocsPhases_ok_trace (docs : Nat → List Ev) (phs : List (List Req)) (start : Nat) (trace : List Req)
    (h : (runDocsPhases docs phs start trace).2 = true) :
    (runDocsPhases docs phs start trace).1 = trace ++ phs.flatten := by
  induction phs generalizing start trace with
  | nil => simp [runDocsPhases]
  | cons ph rest ih =>
    obtain ⟨h1, h2⟩ := (runDocsPhases_ok_cons docs ph rest start trace).mp h
    simp only [runDocsPhases, h1, if_true, ih _ _ h2, List.flatten_cons, List.append_assoc]

/-- a request that reaches the server, and that is neither in the trace so far nor in the phases
`pre`, was sent after `pre` — so `pre` succeeded -/
theorem runDocsPhases_mem_later (docs : Nat → List Ev) (pre post : List (List Req)) (start : Nat)
    (trace : List Req) (r : Req) (h : r ∈ (runDocsPhases docs (pre ++ post) start trace).1)
    (ht : r ∉ trace) (hp : r ∉ pre.flatten) : (runDocsPhases docs pre start trace).2 = true := by
  induction pre generalizing start trace with
  | nil => rfl
  | cons ph rest ih =>
    simp only [List.flatten_cons, List.mem_append, not_or] at hp
    have hn : r ∉ trace ++ ph := by simp [ht, hp.1]
    simp only [List.cons_append, runDocsPhases] at h ⊢
    split at h
    next hA => simpa only [hA, if_true] using ih _ _ h hn hp.2
    next => exact absurd h hn

end Run
