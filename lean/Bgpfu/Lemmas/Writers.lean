import Bgpfu.Model.Writers
import Bgpfu.Lemmas.Framing
/-! What C10 rests on. First the predicates its statements are written in (`MF`, `namesOk`, `WFC`, `WFDoc`, `Sub`,
`Op.trees`, `rawParams`, `Escaped`), up to `Escaped`; everything after that is lemmas and the predicates of their proofs:
the three escapers as byte-wise writers (`Writes`); where the marker can occur in a rendering (bytes no occurrence can
cover, sealed tags); well-formedness of a rendering; names and raw leaves of every operation. -/
namespace Writers
open Framing (marker find OccAt)

/-- marker-free: the delimiter `]]>]]>` starts nowhere in `s`. What C10 asks of a raw leaf. -/
def MF (s : List Nat) : Prop := ∀ j, ¬ OccAt marker s j

theorem mf_iff_find (s : List Nat) : MF s ↔ find marker s = none :=
  (Framing.find_none_iff marker s Framing.marker_ne_nil).symm

instance (s : List Nat) : Decidable (MF s) := decidable_of_iff _ (mf_iff_find s).symm

/-- XML 1.0 `NameStartChar` / `NameChar`, ASCII part -/
def nameStart (b : Nat) : Bool := (97 ≤ b && b ≤ 122) || (65 ≤ b && b ≤ 90) || b == 95 || b == 58
def nameByte (b : Nat) : Bool := nameStart b || (48 ≤ b && b ≤ 57) || b == 45 || b == 46

/-- an (ASCII) XML `Name` -/
def nameOk : List Nat → Bool
  | [] => false
  | c :: r => nameStart c && r.all nameByte

/-- the attribute names of one tag: `Name`s, no two alike (XML 1.0 §3.1, unique attribute specification) -/
def attrNamesOk (as : List Attr) : Bool := (as.all fun a => nameOk a.name) && decide (as.map (·.name)).Nodup

mutual
/-- what C10 asks of a tree: every element and attribute name in it is a `Name`. True of whatever the builders write
(`request_names`); a condition only on element trees the caller supplies (`Op.trees`). -/
def namesOk : XNode → Bool
  | .empty n as => nameOk n && attrNamesOk as
  | .text n as _ => nameOk n && attrNamesOk as
  | .raw n as _ => nameOk n && attrNamesOk as
  | .elem n as ks => nameOk n && attrNamesOk as && namesOkL ks
def namesOkL : List XNode → Bool
  | [] => true
  | k :: ks => namesOk k && namesOkL ks
end

/-- a reference `&name;` that the parser model can decode (predefined entity or character reference) -/
def IsRef (r : List Nat) : Prop := ∃ nm, r = 38 :: nm ++ [59] ∧ 59 ∉ nm ∧ (decodeRef nm).isSome = true

/-- attribute value literal (between double quotes): no `<`, no `"`, `&` only as a reference -/
inductive AttValWF : List Nat → Prop
  | nil : AttValWF []
  | char (c : Nat) (s : List Nat) : c ≠ 60 → c ≠ 38 → c ≠ 34 → AttValWF s → AttValWF (c :: s)
  | ref (r s : List Nat) : IsRef r → AttValWF s → AttValWF (r ++ s)

/-- the attribute part of a tag: ` name="value"` repeated; first index = the names, in order -/
inductive AttrsWF : List (List Nat) → List Nat → Prop
  | nil : AttrsWF [] []
  | cons (n v : List Nat) (names : List (List Nat)) (rest : List Nat) :
      nameOk n = true → AttValWF v → AttrsWF names rest →
      AttrsWF (n :: names) (32 :: n ++ 61 :: 34 :: v ++ 34 :: rest)

/-- XML `content` (the subset the writers produce): character data without `<` `&` `>`,
references, empty-element tags, elements; `F` = what the caller guarantees about the fragments
it supplies (a fragment is content). -/
inductive WFC (F : List Nat → Prop) : List Nat → Prop
  | nil : WFC F []
  | char (c : Nat) (s : List Nat) : c ≠ 60 → c ≠ 38 → c ≠ 62 → WFC F s → WFC F (c :: s)
  | ref (r s : List Nat) : IsRef r → WFC F s → WFC F (r ++ s)
  | empty (n : List Nat) (names : List (List Nat)) (ab s : List Nat) :
      nameOk n = true → AttrsWF names ab → names.Nodup → WFC F s →
      WFC F (60 :: n ++ ab ++ [47, 62] ++ s)
  | elem (n : List Nat) (names : List (List Nat)) (ab c s : List Nat) :
      nameOk n = true → AttrsWF names ab → names.Nodup → WFC F c → WFC F s →
      WFC F (60 :: n ++ ab ++ [62] ++ c ++ closeTag n ++ s)
  | frag (r s : List Nat) : F r → WFC F s → WFC F (r ++ s)

/-- a document: exactly one element (no prolog, nothing after it). What C10 concludes of a rendered message. -/
def WFDoc (F : List Nat → Prop) (d : List Nat) : Prop :=
  (∃ n names ab, nameOk n = true ∧ AttrsWF names ab ∧ names.Nodup ∧ d = 60 :: n ++ ab ++ [47, 62]) ∨
  (∃ n names ab c, nameOk n = true ∧ AttrsWF names ab ∧ names.Nodup ∧ WFC F c ∧
      d = 60 :: n ++ ab ++ [62] ++ c ++ closeTag n)

/-- `Sub t m`: `t` occurs in `m` as a node. How the `values_recovered` theorems speak of a leaf anywhere in a message. -/
inductive Sub : XNode → XNode → Prop
  | refl (m : XNode) : Sub m m
  | kid (t k : XNode) (n : List Nat) (as : List Attr) (ks : List XNode) : k ∈ ks → Sub t k → Sub t (.elem n as ks)

/-- caller-supplied element trees inside an operation (`D: WriteXml` other than `Opaque`) -/
def Op.trees : Op → List XNode
  | .editConfig _ _ _ _ (.configTree t) => [t]
  | .loadConfiguration (.cfgXmlTree t _) => [t]
  | _ => []

/-- **which parameters are written raw** (everything else is an escaped text / attribute leaf) -/
def rawParams (c : Cfg) : Op → List (List Nat)
  | .get (some (.subtree f)) => [f]
  | .getConfig _ (some (.subtree f)) => [f]
  | .editConfig _ _ _ _ (.config r) => [r]
  | .editConfig _ _ _ _ (.configTree t) => rawLeaves t
  | .copyConfig _ (.config r) => [r]
  | .validate (.config r) => [r]
  | .loadConfiguration (.cfgXmlRaw r _) => [r]
  | .loadConfiguration (.cfgXmlTree t _) => rawLeaves t
  | .loadConfiguration (.cfgText p _) => if c.payloadEsc then [] else [p]
  | .loadConfiguration (.cfgJson p _) => if c.payloadEsc then [] else [p]
  | _ => []

/-- the language of `escape`: plain bytes (none of `< > & " '`) and the five predefined references (`escape_no_meta`) -/
inductive Escaped : List Nat → Prop
  | nil : Escaped []
  | char (c : Nat) (s : List Nat) : c ≠ 60 → c ≠ 62 → c ≠ 38 → c ≠ 39 → c ≠ 34 → Escaped s → Escaped (c :: s)
  | ref (r s : List Nat) : r ∈ [b!"&lt;", b!"&gt;", b!"&amp;", b!"&apos;", b!"&quot;"] → Escaped s → Escaped (r ++ s)

theorem escape_append (a b : List Nat) : escape (a ++ b) = escape a ++ escape b := by
  simp [escape]

theorem escape_cons (c : Nat) (s : List Nat) : escape (c :: s) = escByte c ++ escape s := by
  simp [escape]

theorem escText_cons (ws : Bool) (c : Nat) (s : List Nat) :
    escText ws (c :: s) = escTextByte ws c ++ escText ws s := by simp [escText]

theorem escAttr_cons (ws : Bool) (c : Nat) (s : List Nat) :
    escAttr ws (c :: s) = escAttrByte ws c ++ escAttr ws s := by simp [escAttr]

theorem escText_false (s : List Nat) : escText false s = escape s := by
  have : escTextByte false = escByte := by funext b; simp [escTextByte]
  simp [escText, escape, this]

theorem escAttr_false (s : List Nat) : escAttr false s = escape s := by
  have : escAttrByte false = escByte := by funext b; simp [escAttrByte]
  simp [escAttr, escape, this]

/-! ### how the escapers write a byte

All three (`escape`, text content, attribute values; with and without the repair `wsRefs`) write a value byte by byte,
and each byte either as it is or as a reference from one table. Everything C10 says about them follows from
that (`Writes`), so it is proved once, for any such writer. -/

theorem unesc_ref (attr : Bool) (acc nm t : List Nat) (h : 59 ∉ nm) :
    unesc attr (some acc) (nm ++ 59 :: t)
      = (decodeRef (acc.reverse ++ nm)).bind fun bs => (unesc attr none t).map (bs ++ ·) := by
  induction nm generalizing acc with
  | nil => simp [unesc]
  | cons c nm ih =>
    have hc : c ≠ 59 := fun e => h (by simp [e])
    rw [List.cons_append, unesc, if_neg hc, ih _ (fun hm => h (by simp [hm]))]
    simp

/-- the references the escapers write: the byte, and the name that stands for it -/
def refs : List (Nat × List Nat) :=
  [(60, b!"lt"), (62, b!"gt"), (38, b!"amp"), (39, b!"apos"), (34, b!"quot"), (9, b!"#9"), (10, b!"#10"), (13, b!"#13")]

theorem refs_ok : ∀ p ∈ refs, decodeRef p.2 = some [p.1] ∧ 59 ∉ p.2 ∧ ∀ x ∈ 38 :: p.2 ++ [59], x ∉ [60, 62, 34, 39, 13] := by
  decide +kernel

/-- `< > & ' "` -/
abbrev special : List Nat := [60, 62, 38, 39, 34]

/-- `e` is what an escaper writes for the byte `c`: its reference from `refs` if `c` is `special` or one of
`bad`, the byte itself otherwise -/
def Writes (bad : List Nat) (c : Nat) (e : List Nat) : Prop :=
  (c ∉ special ++ bad ∧ e = [c]) ∨ (c ∈ special ++ bad ∧ ∃ p ∈ refs, p.1 = c ∧ e = 38 :: p.2 ++ [59])

instance (bad c e) : Decidable (Writes bad c e) := by unfold Writes; infer_instance

theorem writes_of_table {bad : List Nat} {f : Nat → List Nat} (h1 : ∀ c ∈ special ++ bad, Writes bad c (f c))
    (h2 : ∀ c, c ∉ special ++ bad → f c = [c]) (c : Nat) : Writes bad c (f c) := by
  by_cases h : c ∈ special ++ bad
  · exact h1 c h
  · exact Or.inl ⟨h, h2 c h⟩

theorem escByte_writes : ∀ c, Writes [] c (escByte c) :=
  writes_of_table (by decide +kernel) fun c h => by simp [special] at h; simp [escByte, h]

theorem escTextByte_writes (ws : Bool) : ∀ c, Writes (if ws then [13] else []) c (escTextByte ws c) := by
  cases ws
  · simpa [escTextByte] using escByte_writes
  · exact writes_of_table (by decide +kernel) fun c h => by simp [special] at h; simp [escTextByte, escByte, h]

theorem escAttrByte_writes (ws : Bool) : ∀ c, Writes (if ws then [9, 10, 13] else []) c (escAttrByte ws c) := by
  cases ws
  · simpa [escAttrByte] using escByte_writes
  · exact writes_of_table (by decide +kernel) fun c h => by simp [special] at h; simp [escAttrByte, escByte, h]

theorem Writes.cases {bad : List Nat} {c : Nat} {e : List Nat} (h : Writes bad c e) :
    (e = [c] ∧ (c ≠ 60 ∧ c ≠ 62 ∧ c ≠ 38 ∧ c ≠ 39 ∧ c ≠ 34) ∧ c ∉ bad) ∨
    (∃ nm, e = 38 :: nm ++ [59] ∧ decodeRef nm = some [c] ∧ 59 ∉ nm ∧ ∀ x ∈ e, x ∉ [60, 62, 34, 39, 13]) := by
  rcases h with ⟨h1, h2⟩ | ⟨_, p, hp, rfl, rfl⟩
  · exact Or.inl ⟨h2, by simpa using fun h => h1 (List.mem_append_left _ h), fun h => h1 (List.mem_append_right _ h)⟩
  · exact Or.inr ⟨p.2, rfl, refs_ok p hp⟩

theorem Writes.unesc {bad : List Nat} {c : Nat} {e : List Nat} (h : Writes bad c e) (attr : Bool)
    (ha : attr = true → c ∈ [9, 10, 13] → c ∈ bad) (t : List Nat) :
    unesc attr none (e ++ t) = (unesc attr none t).map (c :: ·) := by
  rcases h.cases with ⟨rfl, h1, h2⟩ | ⟨nm, rfl, h1, h2, _⟩
  · have h3 : attr = true → c ∉ [9, 10, 13] := fun a hc => h2 (ha a hc)
    simp only [List.mem_cons, List.not_mem_nil, or_false, not_or] at h3
    cases attr with
    | false => simp [Writers.unesc, h1]
    | true => simp [Writers.unesc, h1, h3]
  · have := unesc_ref attr [] nm t h2
    simp only [List.reverse_nil, List.nil_append, h1, Option.bind_some] at this
    simpa [Writers.unesc] using this

theorem eol_id (l : List Nat) (h : 13 ∉ l) : eol l = l := by
  induction l with
  | nil => rfl
  | cons c r ih =>
    have hc : c ≠ 13 := by intro e; exact h (by simp [e])
    have hr : 13 ∉ r := by intro e; exact h (by simp [e])
    rw [eol.eq_4, ih hr]
    · intro _ e _; exact hc e
    · intro e; exact hc e

section
variable {bad : List Nat} {f : Nat → List Nat} (hf : ∀ c, Writes bad c (f c))
include hf

theorem written_mem (s : List Nat) (x : Nat) (hx : x ∈ s.flatMap f) : x ≠ 60 ∧ x ≠ 62 ∧ x ≠ 34 ∧ x ≠ 39 := by
  obtain ⟨c, _, hc⟩ := List.mem_flatMap.mp hx
  rcases (hf c).cases with ⟨e, h1, _⟩ | ⟨nm, _, _, _, h2⟩
  · rw [e, List.mem_singleton] at hc; subst hc
    exact ⟨h1.1, h1.2.1, h1.2.2.2.2, h1.2.2.2.1⟩
  · have := h2 x hc
    simp only [List.mem_cons, List.not_mem_nil, or_false, not_or] at this
    exact ⟨this.1, this.2.1, this.2.2.1, this.2.2.2.1⟩

theorem written_no13 (s : List Nat) (h : 13 ∈ bad ∨ 13 ∉ s) : 13 ∉ s.flatMap f := by
  intro hx
  obtain ⟨c, hc, hx⟩ := List.mem_flatMap.mp hx
  rcases (hf c).cases with ⟨e, _, h1⟩ | ⟨nm, _, _, _, h2⟩
  · rw [e, List.mem_singleton] at hx; subst hx
    exact h.elim h1 (fun h => h hc)
  · have := h2 13 hx; simp at this

theorem unesc_written (attr : Bool) (s : List Nat) (ha : attr = true → ∀ c ∈ s, c ∈ [9, 10, 13] → c ∈ bad) :
    unesc attr none (s.flatMap f) = some s := by
  induction s with
  | nil => rfl
  | cons c s ih =>
    rw [List.flatMap_cons, (hf c).unesc attr (fun a => ha a c (by simp)), ih fun a x hx => ha a x (by simp [hx])]
    rfl

theorem parse_written (attr : Bool) (s : List Nat) (h13 : 13 ∈ bad ∨ 13 ∉ s)
    (ha : attr = true → ∀ c ∈ s, c ∈ [9, 10, 13] → c ∈ bad) : unesc attr none (eol (s.flatMap f)) = some s := by
  rw [eol_id _ (written_no13 hf s h13), unesc_written hf attr s ha]

theorem written_isRef (c : Nat) : (f c = [c] ∧ c ≠ 60 ∧ c ≠ 62 ∧ c ≠ 38 ∧ c ≠ 39 ∧ c ≠ 34) ∨ IsRef (f c) := by
  rcases (hf c).cases with ⟨e, h1, _⟩ | ⟨nm, e, h1, h2, _⟩
  · exact Or.inl ⟨e, h1⟩
  · exact Or.inr ⟨nm, e, h2, by simp [h1]⟩

theorem wfc_written (F : List Nat → Prop) (s : List Nat) : WFC F (s.flatMap f) := by
  induction s with
  | nil => exact WFC.nil
  | cons c s ih =>
    rw [List.flatMap_cons]
    rcases written_isRef hf c with ⟨e, h⟩ | h
    · rw [e]; exact WFC.char c _ h.1 h.2.2.1 h.2.1 ih
    · exact WFC.ref _ _ h ih

theorem attVal_written (s : List Nat) : AttValWF (s.flatMap f) := by
  induction s with
  | nil => exact AttValWF.nil
  | cons c s ih =>
    rw [List.flatMap_cons]
    rcases written_isRef hf c with ⟨e, h⟩ | h
    · rw [e]; exact AttValWF.char c _ h.1 h.2.2.1 h.2.2.2.2 ih
    · exact AttValWF.ref _ _ h ih

end

theorem escText_mem (ws : Bool) (s : List Nat) (x : Nat) (h : x ∈ escText ws s) :
    x ≠ 60 ∧ x ≠ 62 ∧ x ≠ 34 ∧ x ≠ 39 :=
  written_mem (escTextByte_writes ws) s x h

theorem escAttr_mem (ws : Bool) (s : List Nat) (x : Nat) (h : x ∈ escAttr ws s) :
    x ≠ 60 ∧ x ≠ 62 ∧ x ≠ 34 ∧ x ≠ 39 :=
  written_mem (escAttrByte_writes ws) s x h

theorem parseText_escText (ws : Bool) (v : List Nat) (hd : ws = true ∨ 13 ∉ v) : parseText (escText ws v) = some v :=
  parse_written (escTextByte_writes ws) false v (by rcases hd with rfl | h; simp; exact Or.inr h) (by simp)

theorem parseAttr_escAttr (ws : Bool) (v : List Nat) (hd : ws = true ∨ (9 ∉ v ∧ 10 ∉ v ∧ 13 ∉ v)) :
    parseAttr (escAttr ws v) = some v := by
  rcases hd with rfl | h
  · exact parse_written (escAttrByte_writes true) true v (by simp) (by simp)
  · refine parse_written (escAttrByte_writes ws) true v (Or.inr h.2.2) fun _ c hc hm => ?_
    simp only [List.mem_cons, List.not_mem_nil, or_false] at hm
    rcases hm with rfl | rfl | rfl
    · exact absurd hc h.1
    · exact absurd hc h.2.1
    · exact absurd hc h.2.2

/-- a byte inside an occurrence is `]`, or it is `>` and the byte before it is `]` -/
theorem occAt_covers (s : List Nat) (j p : Nat) (h : OccAt marker s j) (h1 : j ≤ p) (h2 : p < j + 6) :
    s[p]? = some 93 ∨ (s[p]? = some 62 ∧ 1 ≤ p ∧ s[p - 1]? = some 93) := by
  have tbl : ∀ k < 6, marker[k]? = some 93 ∨ (marker[k]? = some 62 ∧ 1 ≤ k ∧ marker[k - 1]? = some 93) := by decide
  obtain ⟨k, rfl⟩ : ∃ k, p = j + k := ⟨p - j, by omega⟩
  have hk : k < 6 := by omega
  rw [Framing.occAt_get marker s j h k hk]
  rcases tbl k hk with e | ⟨e, hk1, e'⟩
  · exact Or.inl e
  · rw [Nat.add_sub_assoc hk1, Framing.occAt_get marker s j h (k - 1) (Nat.lt_of_le_of_lt (Nat.sub_le k 1) hk)]
    exact Or.inr ⟨e, Nat.le_trans hk1 (Nat.le_add_left k j), e'⟩

/-- `s` is not empty and does not end in `]`: a `>` written after it completes no `]]>` -/
def LastOk (s : List Nat) : Prop := ∃ u y, s = u ++ [y] ∧ y ≠ 93

theorem lastOk_append (a b : List Nat) (h : LastOk b) : LastOk (a ++ b) := by
  obtain ⟨u, y, rfl, hy⟩ := h
  exact ⟨a ++ u, y, by simp, hy⟩

/-- a byte that no occurrence can cover (not `]`, and if it is `>` the byte before it is not `]`) splits every
occurrence question in two -/
theorem occ_split (u v : List Nat) (x : Nat) (hx : x ≠ 93) (hgt : x = 62 → LastOk u) (j : Nat)
    (h : OccAt marker (u ++ x :: v) j) :
    OccAt marker u j ∨ (u.length < j ∧ OccAt marker v (j - u.length - 1)) := by
  by_cases h1 : j + 6 ≤ u.length
  · exact Or.inl (Framing.occAt_of_append marker u _ j h1 h)
  by_cases h2 : u.length < j
  · have e : j = u.length + (j - u.length - 1 + 1) := by omega
    rw [e] at h
    exact Or.inr ⟨h2, (Framing.occAt_append_left marker u (x :: v) _).mp h⟩
  · have := occAt_covers _ j u.length h (Nat.le_of_not_lt h2) (Nat.lt_of_not_le h1)
    simp only [List.getElem?_append_right (Nat.le_refl _), Nat.sub_self, List.getElem?_cons_zero,
      Option.some.injEq] at this
    rcases this with e | ⟨e, _, h4⟩
    · exact absurd e hx
    · obtain ⟨w, y, rfl, hy⟩ := hgt e
      exact absurd (by simpa using h4) hy

theorem mf_of_infix {a s : List Nat} (h : a <:+: s) (hs : MF s) : MF a := by
  obtain ⟨pre, post, rfl⟩ := h
  rw [List.append_assoc] at hs
  exact fun j hj => hs (pre.length + j)
    ((Framing.occAt_append_left marker pre _ j).mpr (Framing.occAt_append marker a post j hj))

theorem mf_of_append_left (a b : List Nat) (h : MF (a ++ b)) : MF a :=
  mf_of_infix (List.prefix_append a b).isInfix h

theorem mf_of_append_right (a b : List Nat) (h : MF (a ++ b)) : MF b :=
  mf_of_infix (List.suffix_append a b).isInfix h

theorem mf_join (u v : List Nat) (x : Nat) (hx : x ≠ 93) (hgt : x = 62 → LastOk u) (hu : MF u) (hv : MF v) :
    MF (u ++ x :: v) :=
  fun j h => (occ_split u v x hx hgt j h).elim (hu j) fun h => hv _ h.2

theorem mf_of_no_gt (s : List Nat) (h : 62 ∉ s) : MF s :=
  fun j hj => h (List.mem_of_getElem? (Framing.occAt_get marker s j hj 2 (by decide)))

theorem mf_nil : MF [] := mf_of_no_gt [] List.not_mem_nil

theorem nameByte_ne (b : Nat) (h : nameByte b = true) :
    b ≠ 62 ∧ b ≠ 93 ∧ b ≠ 60 ∧ b ≠ 34 ∧ b ≠ 32 ∧ b ≠ 61 ∧ b ≠ 47 ∧ b ≠ 38 := by
  refine ⟨?_, ?_, ?_, ?_, ?_, ?_, ?_, ?_⟩ <;> (rintro rfl; revert h; decide)

theorem nameOk_bytes (n : List Nat) (h : nameOk n = true) : n ≠ [] ∧ ∀ b ∈ n, nameByte b = true := by
  cases n with
  | nil => simp [nameOk] at h
  | cons c r =>
    simp only [nameOk, Bool.and_eq_true, List.all_eq_true] at h
    refine ⟨by simp, ?_⟩
    intro b hb
    rcases List.mem_cons.mp hb with e | e
    · subst e; simp [nameByte, h.1]
    · exact h.2 b e

/-- `s` ends in `y>`, `y ≠ ]`: no occurrence reaches across its end, whatever follows -/
def EndsGt (s : List Nat) : Prop := ∃ u y, s = u ++ [y, 62] ∧ y ≠ 93
/-- `s` starts with `<`: no occurrence reaches across its start, whatever precedes -/
def StartsLt (s : List Nat) : Prop := ∃ t, s = 60 :: t

/-- sealed: marker-free, and closed at both ends (`<` … `y>` with `y ≠ ]`) against occurrences that straddle. Every tag
is, and so is every rendering whose raw leaves are marker-free (`good_render`). Not `Xml.Good` of the readers. -/
structure Good (s : List Nat) : Prop where
  mf : MF s
  ends : EndsGt s
  starts : StartsLt s

theorem endsGt_append (a s : List Nat) (h : EndsGt s) : EndsGt (a ++ s) := by
  obtain ⟨u, y, rfl, hy⟩ := h
  exact ⟨a ++ u, y, by simp, hy⟩

/-- two sealed pieces with marker-free bytes between them are sealed: the `>` that ends the first and the `<` that
starts the second are barriers -/
theorem good_sandwich (a r b : List Nat) (ha : Good a) (hr : MF r) (hb : Good b) : Good (a ++ r ++ b) := by
  refine ⟨?_, endsGt_append _ _ hb.ends, ?_⟩
  · obtain ⟨u, y, rfl, hy⟩ := ha.ends
    obtain ⟨t, rfl⟩ := hb.starts
    have e : u ++ [y, 62] ++ r ++ 60 :: t = (u ++ [y]) ++ 62 :: (r ++ 60 :: t) := by simp
    rw [e]
    exact mf_join _ _ 62 (by omega) (fun _ => ⟨u, y, rfl, hy⟩) (mf_of_append_left _ [62] (by simpa using ha.mf))
      (mf_join r t 60 (by omega) (by simp) hr (mf_of_append_right [60] t hb.mf))
  · obtain ⟨t', e⟩ := ha.starts
    exact ⟨t' ++ r ++ b, by rw [e]; simp⟩

theorem good_append (a b : List Nat) (ha : Good a) (hb : Good b) : Good (a ++ b) := by
  simpa using good_sandwich a [] b ha mf_nil hb

theorem good_tag (inner : List Nat) (h62 : 62 ∉ inner) (hl : LastOk inner) : Good (60 :: inner ++ [62]) := by
  refine ⟨?_, ?_, ⟨_, rfl⟩⟩
  · have e : 60 :: inner ++ [62] = (60 :: inner) ++ 62 :: [] := by simp
    rw [e]
    exact mf_join _ [] 62 (by omega) (fun _ => lastOk_append [60] inner hl) (mf_of_no_gt _ (by simpa using h62)) mf_nil
  · obtain ⟨u, y, rfl, hy⟩ := hl
    exact ⟨60 :: u, y, by simp, hy⟩

theorem lastOk_name (n : List Nat) (h : nameOk n = true) : LastOk n := by
  obtain ⟨hne, hb⟩ := nameOk_bytes n h
  rcases List.eq_nil_or_concat n with e | ⟨u, y, e⟩
  · exact absurd e hne
  · refine ⟨u, y, by simpa using e, ?_⟩
    exact (nameByte_ne y (hb y (by simp [e]))).2.1

theorem name_no_gt (n : List Nat) (h : nameOk n = true) : 62 ∉ n :=
  fun hm => (nameByte_ne 62 ((nameOk_bytes n h).2 62 hm)).1 rfl

theorem attrsBytes_no_gt (ws : Bool) (as : List Attr) (h : attrNamesOk as = true) : 62 ∉ attrsBytes ws as := by
  simp only [attrsBytes, List.mem_flatMap, not_exists, not_and]
  intro a ha hm
  simp only [attrNamesOk, Bool.and_eq_true, List.all_eq_true] at h
  simp [attrBytes] at hm
  rcases hm with hm | hm
  · exact name_no_gt _ (h.1 a ha) hm
  · exact (escAttr_mem ws _ 62 hm).2.1 rfl

theorem attrsBytes_lastOk (ws : Bool) (as : List Attr) (hne : as ≠ []) : LastOk (attrsBytes ws as) := by
  rcases List.eq_nil_or_concat as with e | ⟨i, a, rfl⟩
  · exact absurd e hne
  · exact ⟨attrsBytes ws i ++ 32 :: a.name ++ 61 :: 34 :: escAttr ws a.value, 34, by simp [attrsBytes, attrBytes], by omega⟩

/-- what `good_tag` asks of the inside `name attrs` of a start tag -/
theorem inner_ok (ws : Bool) (n : List Nat) (as : List Attr) (hn : nameOk n = true) (ha : attrNamesOk as = true) :
    62 ∉ n ++ attrsBytes ws as ∧ LastOk (n ++ attrsBytes ws as) := by
  refine ⟨by simpa using ⟨name_no_gt n hn, attrsBytes_no_gt ws as ha⟩, ?_⟩
  cases as with
  | nil => simpa [attrsBytes] using lastOk_name n hn
  | cons a as' => exact lastOk_append _ _ (attrsBytes_lastOk ws _ (by simp))

theorem good_openTag (ws : Bool) (n : List Nat) (as : List Attr) (hn : nameOk n = true) (ha : attrNamesOk as = true) :
    Good (openTag ws n as) := by
  simpa [openTag] using good_tag _ (inner_ok ws n as hn ha).1 (inner_ok ws n as hn ha).2

theorem good_emptyTag (ws : Bool) (n : List Nat) (as : List Attr) (hn : nameOk n = true) (ha : attrNamesOk as = true) :
    Good (emptyTag ws n as) := by
  have := good_tag (n ++ attrsBytes ws as ++ [47]) (by simpa using (inner_ok ws n as hn ha).1) ⟨_, 47, rfl, by omega⟩
  simpa [emptyTag] using this

theorem good_closeTag (n : List Nat) (hn : nameOk n = true) : Good (closeTag n) := by
  simpa [closeTag] using good_tag (47 :: n) (by simpa using name_no_gt n hn) (lastOk_append [47] n (lastOk_name n hn))

/-- `Good` for the rendering of a list of children, which may be empty -/
def GoodL (s : List Nat) : Prop := s = [] ∨ Good s

theorem goodL_mf (s : List Nat) (h : GoodL s) : MF s := by
  rcases h with rfl | h
  · exact mf_nil
  · exact h.mf

mutual
theorem good_render (ws : Bool) : (m : XNode) → namesOk m = true → (∀ r ∈ rawLeaves m, MF r) → Good (render ws m)
  | .empty n as, hn, _ => by
    simp only [namesOk, Bool.and_eq_true] at hn
    simpa [render] using good_emptyTag ws n as hn.1 hn.2
  | .text n as v, hn, _ => by
    simp only [namesOk, Bool.and_eq_true] at hn
    simp only [render]
    exact good_sandwich _ _ _ (good_openTag ws n as hn.1 hn.2)
      (mf_of_no_gt _ (fun hm => (escText_mem ws v 62 hm).2.1 rfl)) (good_closeTag n hn.1)
  | .raw n as r, hn, hr => by
    simp only [namesOk, Bool.and_eq_true] at hn
    simp only [render]
    exact good_sandwich _ _ _ (good_openTag ws n as hn.1 hn.2) (hr r (by simp [rawLeaves])) (good_closeTag n hn.1)
  | .elem n as ks, hn, hr => by
    simp only [namesOk, Bool.and_eq_true] at hn
    simp only [render]
    exact good_sandwich _ _ _ (good_openTag ws n as hn.1.1 hn.1.2)
      (goodL_mf _ (good_renderL ws ks hn.2 (by simpa [rawLeaves] using hr))) (good_closeTag n hn.1.1)
theorem good_renderL (ws : Bool) : (ks : List XNode) → namesOkL ks = true → (∀ r ∈ rawLeavesL ks, MF r) → GoodL (renderL ws ks)
  | [], _, _ => Or.inl (by simp [renderL])
  | k :: ks, hn, hr => by
    simp only [namesOkL, Bool.and_eq_true] at hn
    simp only [renderL]
    have hk := good_render ws k hn.1 (fun r hm => hr r (by simp [rawLeavesL, hm]))
    rcases good_renderL ws ks hn.2 (fun r hm => hr r (by simp [rawLeavesL, hm])) with e | h
    · rw [e]; exact Or.inr (by simpa using hk)
    · exact Or.inr (good_append _ _ hk h)
end

theorem occ_wire_iff (R : List Nat) (hmf : MF R) (he : EndsGt R) (j : Nat) :
    OccAt marker (R ++ marker) j ↔ j = R.length := by
  constructor
  · intro h
    obtain ⟨u, y, rfl, hy⟩ := he
    have e : u ++ [y, 62] ++ marker = (u ++ [y]) ++ 62 :: marker := by simp
    rw [e] at h
    rcases occ_split (u ++ [y]) marker 62 (by omega) (fun _ => ⟨u, y, rfl, hy⟩) j h with h1 | ⟨h2, h3⟩
    · exact absurd (by simpa using Framing.occAt_append marker (u ++ [y]) [62] j h1) (hmf j)
    · have := Framing.occAt_bound marker marker _ Framing.marker_ne_nil h3
      simp [Framing.marker_length] at this h2 ⊢
      omega
  · rintro rfl
    have := (Framing.occAt_append_left marker R marker 0).mpr (by simp [OccAt])
    simpa using this

theorem find_wire (R : List Nat) (hmf : MF R) (he : EndsGt R) : find marker (R ++ marker) = some R.length := by
  rw [Framing.find_some_iff _ _ _ Framing.marker_ne_nil]
  refine ⟨(occ_wire_iff R hmf he _).mpr rfl, ?_⟩
  intro j hj h
  have := (occ_wire_iff R hmf he j).mp h
  omega

/-- whatever its raw leaves are (`good_render` wants them marker-free) -/
theorem endsGt_render (ws : Bool) (m : XNode) (hn : namesOk m = true) : EndsGt (render ws m) := by
  cases m <;> simp only [namesOk, Bool.and_eq_true] at hn <;> simp only [render]
  · exact (good_emptyTag ws _ _ hn.1 hn.2).ends
  · exact endsGt_append _ _ (good_closeTag _ hn.1).ends
  · exact endsGt_append _ _ (good_closeTag _ hn.1).ends
  · exact endsGt_append _ _ (good_closeTag _ hn.1.1).ends

theorem send_some {c : Cfg} {m : XNode} {w : List Nat} (h : send c m = some w) :
    w = toWire c.wsRefs m ∧ (c.guard = true → MF (render c.wsRefs m)) ∧ (c.charGuard = true → charsOk w = true) := by
  unfold send at h
  split at h
  · cases h
  rename_i h1
  split at h
  · cases h
  rename_i h2
  cases h
  refine ⟨rfl, fun hg => ?_, fun hg => by simpa [hg] using h2⟩
  rw [mf_iff_find]
  cases hf : find marker (render c.wsRefs m) with
  | none => rfl
  | some i => simp [hg, hf] at h1

theorem wfc_of_doc (F : List Nat → Prop) (e s : List Nat) (he : WFDoc F e) (hs : WFC F s) : WFC F (e ++ s) := by
  rcases he with ⟨n, names, ab, h1, h2, h3, rfl⟩ | ⟨n, names, ab, c, h1, h2, h3, h4, rfl⟩
  · exact WFC.empty n names ab s h1 h2 h3 hs
  · exact WFC.elem n names ab c s h1 h2 h3 h4 hs

theorem wfc_append (F : List Nat → Prop) (a b : List Nat) (ha : WFC F a) (hb : WFC F b) : WFC F (a ++ b) := by
  induction ha with
  | nil => simpa using hb
  | char c s h1 h2 h3 _ ih => exact WFC.char c _ h1 h2 h3 ih
  | ref r s h _ ih => rw [List.append_assoc]; exact WFC.ref r _ h ih
  | empty n names ab s h1 h2 h3 _ ih => rw [List.append_assoc]; exact WFC.empty n names ab _ h1 h2 h3 ih
  | elem n names ab c s h1 h2 h3 h4 _ _ ih => rw [List.append_assoc]; exact WFC.elem n names ab c _ h1 h2 h3 h4 ih
  | frag r s h _ ih => rw [List.append_assoc]; exact WFC.frag r _ h ih

theorem wfc_flatten (G : List Nat → Prop) (s : List Nat) (h : WFC (WFC G) s) : WFC G s := by
  induction h with
  | nil => exact WFC.nil
  | char c s h1 h2 h3 _ ih => exact WFC.char c _ h1 h2 h3 ih
  | ref r s h _ ih => exact WFC.ref r _ h ih
  | empty n names ab s h1 h2 h3 _ ih => exact WFC.empty n names ab _ h1 h2 h3 ih
  | elem n names ab c s h1 h2 h3 _ _ ihc ih => exact WFC.elem n names ab c _ h1 h2 h3 ihc ih
  | frag r s h _ ih => exact wfc_append G r s h ih

theorem attrsWF_render (ws : Bool) (as : List Attr) (h : (as.all fun a => nameOk a.name) = true) :
    AttrsWF (as.map (·.name)) (attrsBytes ws as) := by
  induction as with
  | nil => exact AttrsWF.nil
  | cons a as ih =>
    simp only [List.all_cons, Bool.and_eq_true] at h
    have := AttrsWF.cons a.name (escAttr ws a.value) _ _ h.1 (attVal_written (escAttrByte_writes ws) a.value) (ih h.2)
    simpa [attrsBytes, attrBytes] using this

theorem attrs_ok (ws : Bool) (as : List Attr) (h : attrNamesOk as = true) :
    AttrsWF (as.map (·.name)) (attrsBytes ws as) ∧ (as.map (·.name)).Nodup := by
  simp only [attrNamesOk, Bool.and_eq_true, decide_eq_true_eq] at h
  exact ⟨attrsWF_render ws as h.1, h.2⟩

mutual
theorem wf_render (F : List Nat → Prop) (ws : Bool) :
    (m : XNode) → namesOk m = true → (∀ r ∈ rawLeaves m, F r) → WFDoc F (render ws m)
  | .empty n as, hn, _ => by
    simp only [namesOk, Bool.and_eq_true] at hn
    obtain ⟨h1, h2⟩ := attrs_ok ws as hn.2
    exact Or.inl ⟨n, _, _, hn.1, h1, h2, by simp [render, emptyTag]⟩
  | .text n as v, hn, _ => by
    simp only [namesOk, Bool.and_eq_true] at hn
    obtain ⟨h1, h2⟩ := attrs_ok ws as hn.2
    exact Or.inr ⟨n, _, _, _, hn.1, h1, h2, wfc_written (escTextByte_writes ws) F v, by simp [render, openTag, escText]⟩
  | .raw n as r, hn, hr => by
    simp only [namesOk, Bool.and_eq_true] at hn
    obtain ⟨h1, h2⟩ := attrs_ok ws as hn.2
    have : WFC F r := by simpa using WFC.frag r [] (hr r (by simp [rawLeaves])) WFC.nil
    exact Or.inr ⟨n, _, _, _, hn.1, h1, h2, this, by simp [render, openTag]⟩
  | .elem n as ks, hn, hr => by
    simp only [namesOk, Bool.and_eq_true] at hn
    obtain ⟨h1, h2⟩ := attrs_ok ws as hn.1.2
    exact Or.inr ⟨n, _, _, _, hn.1.1, h1, h2, wf_renderL F ws ks hn.2 (by simpa [rawLeaves] using hr),
      by simp [render, openTag]⟩
theorem wf_renderL (F : List Nat → Prop) (ws : Bool) :
    (ks : List XNode) → namesOkL ks = true → (∀ r ∈ rawLeavesL ks, F r) → WFC F (renderL ws ks)
  | [], _, _ => by simpa [renderL] using WFC.nil
  | k :: ks, hn, hr => by
    simp only [namesOkL, Bool.and_eq_true] at hn
    simp only [renderL]
    exact wfc_of_doc F _ _ (wf_render F ws k hn.1 (fun r hm => hr r (by simp [rawLeavesL, hm])))
      (wf_renderL F ws ks hn.2 (fun r hm => hr r (by simp [rawLeavesL, hm])))
end

/-- a tree without raw leaves: a document of the subset and well framed, whatever values it carries -/
theorem render_no_raw (ws : Bool) (m : XNode) (hn : namesOk m = true) (h0 : rawLeaves m = []) :
    WFDoc (fun _ => False) (render ws m) ∧ find marker (toWire ws m) = some (render ws m).length :=
  have hg := good_render ws m hn (by simp [h0])
  ⟨wf_render _ ws m hn (by simp [h0]), find_wire _ hg.mf hg.ends⟩

theorem takeWhile_span (p : Nat → Bool) (e t : List Nat) (x : Nat) (he : ∀ b ∈ e, p b = true) (hx : p x = false) :
    (e ++ x :: t).takeWhile p = e := by
  rw [List.takeWhile_append_of_pos he, List.takeWhile_cons_of_neg (by simp [hx]), List.append_nil]

theorem renderL_eq_flatMap (ws : Bool) (ks : List XNode) : renderL ws ks = ks.flatMap (render ws) := by
  induction ks with
  | nil => rfl
  | cons k ks ih => rw [renderL, ih, List.flatMap_cons]

theorem sub_render (ws : Bool) (t m : XNode) (h : Sub t m) : render ws t <:+: render ws m := by
  induction h with
  | refl => exact List.infix_refl _
  | kid k n as ks hk _ ih =>
    have : render ws k <:+: renderL ws ks := by
      rw [renderL_eq_flatMap, List.flatMap_def]
      exact List.infix_of_mem_flatten (List.mem_map_of_mem hk)
    exact ih.trans (this.trans (List.infix_append _ _ _))

theorem render_attr (ws : Bool) (t : XNode) (a : Attr) (h : a ∈ t.attrs) : attrBytes ws a <:+: render ws t := by
  have hop : ∀ n as, attrsBytes ws as <:+: openTag ws n as := fun n as => ⟨60 :: n, [62], by simp [openTag]⟩
  have : attrsBytes ws t.attrs <:+: render ws t := by
    cases t with
    | empty n as => exact ⟨60 :: n, [47, 62], by simp [render, emptyTag, XNode.attrs]⟩
    | text n as v => exact (hop n as).trans ⟨[], escText ws v ++ closeTag n, by simp [render]⟩
    | raw n as r => exact (hop n as).trans ⟨[], r ++ closeTag n, by simp [render]⟩
    | elem n as ks => exact (hop n as).trans ⟨[], renderL ws ks ++ closeTag n, by simp [render]⟩
  rw [attrsBytes, List.flatMap_def] at this
  exact (List.infix_of_mem_flatten (List.mem_map_of_mem h)).trans this

theorem rawLeavesL_append (a b : List XNode) : rawLeavesL (a ++ b) = rawLeavesL a ++ rawLeavesL b := by
  induction a with
  | nil => simp [rawLeavesL]
  | cons k a ih => simp [rawLeavesL, ih]

theorem namesOkL_append (a b : List XNode) : namesOkL (a ++ b) = (namesOkL a && namesOkL b) := by
  induction a with
  | nil => simp [namesOkL]
  | cons k a ih => simp [namesOkL, ih, Bool.and_assoc]

theorem ds_namesOk (d : Datastore) : namesOk d.node = true := by cases d <;> decide
theorem ds_rawLeaves (d : Datastore) : rawLeaves d.node = [] := by cases d <;> rfl
theorem dataTag_ok (f : Fmt) (a : Act) : nameOk (dataTag f a) = true := by cases f <;> cases a <;> decide

theorem namesOkL_optText (n : List Nat) (as : List Attr) (o : Option (List Nat)) (hn : nameOk n = true)
    (ha : attrNamesOk as = true) : namesOkL (optNode (.text n as) o) = true := by
  cases o <;> simp [optNode, namesOkL, namesOk, hn, ha]

theorem rawLeavesL_optText (n : List Nat) (as : List Attr) (o : Option (List Nat)) :
    rawLeavesL (optNode (.text n as) o) = [] := by
  cases o <;> rfl

theorem namesOkL_map {α} (f : α → XNode) (hf : ∀ a, namesOk (f a) = true) (l : List α) :
    namesOkL (l.map f) = true := by
  induction l with
  | nil => rfl
  | cons a l ih => simp only [List.map_cons, namesOkL, hf, ih, Bool.and_self]

theorem rawLeavesL_map {α} (f : α → XNode) (hf : ∀ a, rawLeaves (f a) = []) (l : List α) :
    rawLeavesL (l.map f) = [] := by
  induction l with
  | nil => rfl
  | cons a l ih => simp only [List.map_cons, rawLeavesL, hf, ih, List.append_nil]

theorem optFilter_namesOk (f : Option Filter) : namesOkL (optNode Filter.node f) = true := by
  rcases f with _ | (f | s) <;> simp (config := {decide := true}) [optNode, Filter.node, namesOkL, namesOk, attrNamesOk]

theorem source_namesOk (s : Source) : namesOk s.node = true := by
  cases s <;> simp (config := {decide := true}) [Source.node, urlNode, ds_namesOk, namesOk, attrNamesOk]

-- `cases` only where the shape of the element depends on the argument through a `match`; options and flags
-- that add or leave out a leaf are dealt with by `namesOkL_optText` and `apply_ite`
theorem build_namesOk (c : Cfg) (op : Op) (h : ∀ t ∈ op.trees, namesOk t = true) : namesOk (build c op) = true := by
  cases op with
  | editConfig t d e o s =>
    cases s <;>
      simp (config := {decide := true}) [build, EditSrc.node, urlNode, ds_namesOk, namesOk, namesOkL, attrNamesOk,
        namesOkL_append, apply_ite namesOkL]
    rename_i t'
    exact h t' (by simp [Op.trees])
  | deleteConfig t =>
    cases t <;> simp (config := {decide := true}) [build, urlNode, ds_namesOk, namesOk, namesOkL, attrNamesOk]
  | commit cf to p q =>
    cases cf <;> cases q <;>
      simp (config := {decide := true}) [build, namesOk, namesOkL, attrNamesOk, namesOkL_append, apply_ite namesOkL,
        namesOkL_optText]
  | cancelCommit p => cases p <;> simp (config := {decide := true}) [build, namesOk, namesOkL, attrNamesOk]
  | openConfiguration t => cases t <;> simp (config := {decide := true}) [build, namesOk, namesOkL, attrNamesOk]
  | commitConfiguration ck at_ cf lg sy =>
    cases cf <;> rcases sy with _ | (_ | _) <;>
      simp (config := {decide := true}) [build, namesOk, namesOkL, attrNamesOk, namesOkL_append, apply_ite namesOkL,
        apply_ite namesOk, namesOkL_optText]
  | loadConfiguration s =>
    cases s <;>
      simp (config := {decide := true}) [build, LoadSrc.node, payloadNode, Fmt.attr, Act.attr, dataTag_ok, namesOk, namesOkL,
        attrNamesOk, apply_ite namesOk]
    rename_i t' a
    exact h t' (by simp [Op.trees])
  | _ =>
    simp (config := {decide := true}) [build, ds_namesOk, optFilter_namesOk, source_namesOk, namesOk, namesOkL, attrNamesOk]

theorem build_rawLeaves (c : Cfg) (op : Op) : rawLeaves (build c op) = rawParams c op := by
  cases op with
  | get f => rcases f with _ | (f | s) <;> simp [build, optNode, Filter.node, rawLeaves, rawLeavesL, rawParams]
  | getConfig d f =>
    rcases f with _ | (f | s) <;> simp [build, optNode, Filter.node, ds_rawLeaves, rawLeaves, rawLeavesL, rawParams]
  | editConfig t d e o s =>
    cases s <;>
      simp [build, EditSrc.node, urlNode, ds_rawLeaves, rawLeaves, rawLeavesL, rawParams, rawLeavesL_append, apply_ite rawLeavesL]
  | copyConfig t s => cases s <;> simp [build, Source.node, urlNode, ds_rawLeaves, rawLeaves, rawLeavesL, rawParams]
  | deleteConfig t => cases t <;> simp [build, urlNode, ds_rawLeaves, rawLeaves, rawLeavesL, rawParams]
  | validate s => cases s <;> simp [build, Source.node, urlNode, ds_rawLeaves, rawLeaves, rawLeavesL, rawParams]
  | commit cf to p q =>
    cases cf <;> cases q <;>
      simp [build, rawLeaves, rawLeavesL, rawParams, rawLeavesL_append, apply_ite rawLeavesL, rawLeavesL_optText]
  | cancelCommit p => cases p <;> simp [build, rawLeaves, rawLeavesL, rawParams]
  | openConfiguration t => cases t <;> simp [build, rawLeaves, rawLeavesL, rawParams]
  | commitConfiguration ck at_ cf lg sy =>
    cases cf <;> cases sy <;>
      simp [build, rawLeaves, rawLeavesL, rawParams, rawLeavesL_append, apply_ite rawLeavesL, apply_ite rawLeaves,
        rawLeavesL_optText]
  | loadConfiguration s =>
    cases s <;> simp [build, LoadSrc.node, payloadNode, rawLeaves, rawLeavesL, rawParams, apply_ite rawLeaves]
  | _ => simp [build, ds_rawLeaves, rawLeaves, rawLeavesL, rawParams]

theorem sub_request_child (c : Cfg) (id : Nat) (op : Op) {n : List Nat} {as : List Attr} {t : XNode}
    (h : build c op = .elem n as [t]) : Sub t (request c id op) := by
  rw [request, h]
  exact Sub.kid _ _ _ _ _ (List.mem_singleton.mpr rfl) (Sub.kid _ _ _ _ _ (List.mem_singleton.mpr rfl) (Sub.refl _))

theorem hello_namesOk (caps : List (List Nat)) : namesOk (hello caps) = true := by
  simp (config := {decide := true}) [hello, namesOk, namesOkL, attrNamesOk, namesOkL_map]

theorem hello_rawLeaves (caps : List (List Nat)) : rawLeaves (hello caps) = [] := by
  simp [hello, rawLeaves, rawLeavesL, rawLeavesL_map (XNode.text _ _) fun _ => rfl]

theorem attrNamesOk_nil : attrNamesOk [] = true := rfl

theorem deleteAttr_namesOk (b : Bool) : attrNamesOk (if b = true then [⟨b!"delete", b!"delete"⟩] else []) = true := by
  cases b <;> decide

theorem routeFilter_namesOk (r : Range) (d : Bool) : namesOk (routeFilter r d) = true := by
  simp (config := {decide := true}) [routeFilter, namesOk, namesOkL, attrNamesOk_nil, deleteAttr_namesOk]

theorem routeFilter_rawLeaves (r : Range) (d : Bool) : rawLeaves (routeFilter r d) = [] := by
  simp [rawLeavesL, rawLeaves, routeFilter]

theorem diff_namesOk (d : Diff) : namesOk d.node = true := by
  rcases d with ⟨fam, old, new⟩
  cases old <;>
    simp (config := {decide := true}) [Diff.node, namesOk, namesOkL, attrNamesOk_nil, deleteAttr_namesOk, namesOkL_append,
      apply_ite namesOkL, namesOkL_map, routeFilter_namesOk]

theorem diff_rawLeaves (d : Diff) : rawLeaves d.node = [] := by
  rcases d with ⟨fam, old, new⟩
  cases old <;>
    simp [Diff.node, rawLeaves, rawLeavesL, rawLeavesL_append, apply_ite rawLeavesL, rawLeavesL_map, routeFilter_rawLeaves]

theorem updateTree_namesOk (u : Update) : namesOk (updateTree u) = true := by
  cases u <;> simp (config := {decide := true}) only [updateTree, Diff.nodes, namesOk, namesOkL, attrNamesOk, namesOkL_append,
    apply_ite namesOkL, diff_namesOk, Bool.and_true, Bool.and_self, ite_self, List.all_cons, List.all_nil, List.map_cons, List.map_nil]

theorem updateTree_rawLeaves (u : Update) : rawLeaves (updateTree u) = [] := by
  cases u <;> simp only [updateTree, Diff.nodes, rawLeaves, rawLeavesL, rawLeavesL_append, apply_ite rawLeavesL, diff_rawLeaves,
    List.append_nil, ite_self]

theorem escaped_escape (s : List Nat) : Escaped (escape s) := by
  have tbl : ∀ p ∈ refs, p.1 ∈ [60, 62, 38, 39, 34] →
      38 :: p.2 ++ [59] ∈ [b!"&lt;", b!"&gt;", b!"&amp;", b!"&apos;", b!"&quot;"] := by decide +kernel
  induction s with
  | nil => exact Escaped.nil
  | cons c s ih =>
    rw [escape_cons]
    rcases escByte_writes c with ⟨h, e⟩ | ⟨h, p, hp, rfl, e⟩
    · simp only [List.append_nil, List.mem_cons, List.not_mem_nil, or_false, not_or] at h
      rw [e]; exact Escaped.char c _ h.1 h.2.1 h.2.2.1 h.2.2.2.1 h.2.2.2.2 ih
    · rw [e]; exact Escaped.ref _ _ (tbl p hp (by simpa using h)) ih

end Writers
