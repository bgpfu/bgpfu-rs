import Bgpfu.Lemmas.Rpsl
/-!
The connection / pipeline model of `Model/Irr.lean`, and for each resolver one triple (`M.Sat`):
the evaluator stays clean, the exchange is well attributed, and the value is this function of the
server's answers.
-/
namespace Irr
open Rpsl RpslSpec

/-- what the server answers to a batch of queries, the first of which is the `i`-th of the evaluation -/
def answers (sv : Server) : Nat → List Query → List (Query × Response)
  | _, [] => []
  | i, q :: qs => (q, respond sv i q) :: answers sv (i + 1) qs

theorem answers_fst (sv : Server) (i : Nat) (qs : List Query) :
    (answers sv i qs).map (·.1) = qs := by
  induction qs generalizing i with
  | nil => rfl
  | cons q qs ih => simp [answers, ih]

theorem respond_faultfree (db : Db) (i : Nat) (q : Query) :
    respond { db := db, faults := [] } i q = serve db q := by
  simp [respond]

theorem answers_faultfree (db : Db) (i : Nat) (qs : List Query) :
    answers { db := db, faults := [] } i qs = qs.map fun q => (q, serve db q) := by
  induction qs generalizing i with
  | nil => rfl
  | cons q qs ih => simp [answers, ih, respond_faultfree]

def sents : List Event → List (Query × Response)
  | [] => []
  | .sent _ q r :: es => (q, r) :: sents es
  | .recv _ _ _ :: es => sents es

def recvs : List Event → List (Query × Response)
  | [] => []
  | .sent _ _ _ :: es => recvs es
  | .recv _ sq r :: es => (sq, r) :: recvs es

/-- every response the client consumed was attributed to the query the server answered -/
def Attributed : List Event → Prop
  | [] => True
  | .sent _ _ _ :: es => Attributed es
  | .recv cq sq _ :: es => cq = sq ∧ Attributed es

theorem sents_append (a b : List Event) : sents (a ++ b) = sents a ++ sents b := by
  induction a with
  | nil => rfl
  | cons e a ih => cases e <;> simp [sents, ih]

theorem recvs_append (a b : List Event) : recvs (a ++ b) = recvs a ++ recvs b := by
  induction a with
  | nil => rfl
  | cons e a ih => cases e <;> simp [recvs, ih]

theorem attributed_append (a b : List Event) : Attributed (a ++ b) ↔ Attributed a ∧ Attributed b := by
  induction a with
  | nil => simp [Attributed]
  | cons e a ih => cases e <;> simp [Attributed, ih, and_assoc]

/-- the events of a completed exchange: consumed responses are correctly attributed, and they are
exactly the responses the server sent, in the order it sent them, each once -/
def EvOk (ev : List Event) : Prop := Attributed ev ∧ recvs ev = sents ev

theorem EvOk.nil : EvOk [] := ⟨trivial, rfl⟩

theorem EvOk.append {a b : List Event} (ha : EvOk a) (hb : EvOk b) : EvOk (a ++ b) :=
  ⟨(attributed_append a b).mpr ⟨ha.1, hb.1⟩, by rw [recvs_append, sents_append, ha.2, hb.2]⟩

/-- the evaluator holds its connection and nothing is outstanding on it -/
def Clean (st : Ev) : Prop := ∃ c, st.conn = some c ∧ c.unread = []

structure PInv (p : Pipe) : Prop where
  /-- the client's queue of in-flight queries is the list of queries whose answers are outstanding -/
  aligned : p.conn.unread.map (·.1) = p.queue
  attributed : Attributed p.ev
  /-- consumed ++ outstanding = sent -/
  balance : recvs p.ev ++ p.conn.unread = sents p.ev

theorem PInv.new (c : Conn) (h : c.unread = []) : PInv (Pipe.new c) :=
  ⟨by simp [Pipe.new, h], trivial, by simp [Pipe.new, h, recvs, sents]⟩

theorem PInv.push {p : Pipe} (sv : Server) (q : Query) (h : PInv p) : PInv (push sv q p) := by
  refine ⟨?_, ?_, ?_⟩
  · simp [Irr.push, h.aligned]
  · simp only [Irr.push]
    exact (attributed_append _ _).mpr ⟨h.attributed, by simp [Attributed]⟩
  · simp only [Irr.push, recvs_append, sents_append, recvs, sents, List.append_nil]
    rw [← List.append_assoc, h.balance]

theorem push_nq (sv : Server) (q : Query) (p : Pipe) : (push sv q p).conn.nq = p.conn.nq + 1 := rfl

theorem PInv.pushAll {p : Pipe} (sv : Server) (qs : List Query) (h : PInv p) :
    PInv (pushAll sv qs p) := by
  induction qs generalizing p with
  | nil => exact h
  | cons q qs ih => exact ih (h.push sv q)

theorem pushAll_unread (sv : Server) (qs : List Query) (p : Pipe) :
    (pushAll sv qs p).conn.unread = p.conn.unread ++ answers sv p.conn.nq qs := by
  induction qs generalizing p with
  | nil => simp [pushAll, answers]
  | cons q qs ih =>
    rw [pushAll, ih]
    simp [Irr.push, answers]

theorem pop_spec {p : Pipe} (h : PInv p) (q : Query) (r : Response) (us : List (Query × Response))
    (hu : p.conn.unread = (q, r) :: us) :
    ∃ p', pop p = (some r, p') ∧ PInv p' ∧ p'.conn.unread = us ∧ p'.conn.nq = p.conn.nq := by
  have hq : p.queue = q :: us.map (·.1) := by rw [← h.aligned, hu]; rfl
  refine ⟨{ conn := { p.conn with unread := us }, queue := us.map (·.1), ev := p.ev ++ [.recv q q r] },
    ?_, ⟨rfl, ?_, ?_⟩, rfl, rfl⟩
  · simp [pop, hq, hu]
  · exact (attributed_append _ _).mpr ⟨h.attributed, by simp [Attributed]⟩
  · have := h.balance
    rw [hu] at this
    simp only [recvs_append, sents_append, recvs, sents, List.append_nil]
    rw [List.append_assoc]
    simpa using this

theorem popN_spec (us : List (Query × Response)) (p : Pipe) (h : PInv p) (hu : p.conn.unread = us) :
    ∃ p', popN us.length p = (us.map (·.2), p') ∧ PInv p' ∧ p'.conn.unread = [] := by
  induction us generalizing p with
  | nil => exact ⟨p, rfl, h, hu⟩
  | cons u us ih =>
    obtain ⟨q, r⟩ := u
    obtain ⟨p1, h1, h2, h3, _⟩ := pop_spec h q r us hu
    obtain ⟨p2, h5, h6, h7⟩ := ih p1 h2 h3
    exact ⟨p2, by simp [popN, h1, h5], h6, h7⟩

theorem responses_spec (p : Pipe) (h : PInv p) :
    ∃ p', responses p = (p.conn.unread.map (·.2), p') ∧ PInv p' ∧ p'.conn.unread = [] := by
  have hl : p.queue.length = p.conn.unread.length := by rw [← h.aligned]; simp
  unfold responses
  rw [hl]
  exact popN_spec _ p h rfl

theorem EvOk.closed : EvClosed EvOk := ⟨EvOk.nil, fun _ _ => EvOk.append⟩

/-- the exchange every resolver is built from: write `qs` on a pipeline with nothing outstanding and
read all responses; they are the server's `answers` to `qs`, in order -/
theorem exchange (sv : Server) (qs : List Query) {p : Pipe} (h : PInv p) (hu : p.conn.unread = []) :
    ∃ p', responses (pushAll sv qs p) = ((answers sv p.conn.nq qs).map (·.2), p') ∧ PInv p' := by
  obtain ⟨p', h1, h2, _⟩ := responses_spec _ (h.pushAll sv qs)
  rw [pushAll_unread, hu, List.nil_append] at h1
  exact ⟨p', h1, h2⟩

/-- how every resolver ends: the pipeline is dropped, which reads whatever is outstanding; these are
the connection and the events of `(match p.drop with | (c, ev) => (o, c, ev))` -/
theorem finish {p : Pipe} (h : PInv p) : p.drop.1.unread = [] ∧ EvOk p.drop.2 := by
  obtain ⟨p', h1, h2, h3⟩ := responses_spec p h
  simp only [Pipe.drop, h1]
  exact ⟨h3, h2.attributed, by simpa [h3] using h2.balance⟩

theorem withConn_sat {α : Type} {f : Conn → Outcome α × Conn × List Event} {Q : α → Prop}
    (hf : ∀ c, c.unread = [] → (f c).2.1.unread = [] ∧ EvOk (f c).2.2 ∧ ∀ a, (f c).1 = .ok a → Q a) :
    (withConn f).Sat Clean EvOk Q := by
  rintro st ⟨c, hc, hu⟩
  have := hf c hu
  revert this
  simp only [withConn, hc]
  rcases f c with ⟨o, c', ev⟩
  exact fun h => ⟨⟨c', rfl, h.1⟩, h.2⟩

-- In the resolvers the `responses …` term is rewritten by `simp only` before `finish` is applied:
-- unifying through the resolver's nested matches instead is some hundred times dearer to check.

theorem resolveAutNum_sat (sv : Server) (a : Nat) :
    (resolveAutNum sv a).Sat Clean EvOk fun S =>
      ∃ i, S = PSet.ofRanges (collect false ((answers sv i [.routes4 a, .routes6 a]).map (·.2))) := by
  refine withConn_sat fun c hc => ?_
  obtain ⟨p', h1, h2⟩ := exchange sv [.routes4 a, .routes6 a] (PInv.new c hc) hc
  simp only [h1]
  exact and_assoc.mp ⟨finish h2, fun S e => ⟨c.nq, by cases e; rfl⟩⟩

theorem resolveRouteSet_sat (cfg : Cfg) (sv : Server) (n : String) :
    (resolveRouteSet cfg sv n).Sat Clean EvOk fun S =>
      ∃ i, S = PSet.ofRanges (collect cfg.rsRange [respond sv i (.routeSetMembers n)]) := by
  refine withConn_sat fun c hc => ?_
  obtain ⟨p', h1, h2⟩ := exchange sv [.routeSetMembers n] (PInv.new c hc) hc
  simp only [pushAll] at h1
  simp only [h1]
  exact and_assoc.mp ⟨finish h2, fun S e => ⟨c.nq, by cases e; rfl⟩⟩

theorem resolveFilterSet_sat (sv : Server) (n : String) :
    (resolveFilterSet sv n).Sat Clean EvOk fun e =>
      ∃ i, e = (firstMpFilter ([respond sv i (.filterSet n)].flatMap (·.items))).getD (.not .any) := by
  refine withConn_sat fun c hc => ?_
  obtain ⟨p', h1, h2⟩ := exchange sv [.filterSet n] (PInv.new c hc) hc
  simp only [pushAll] at h1
  simp only [h1]
  exact and_assoc.mp ⟨finish h2, fun S e => ⟨c.nq, by cases e; rfl⟩⟩

theorem resolveAsSet_sat (sv : Server) (n : String) :
    (resolveAsSet sv n).Sat Clean EvOk fun S =>
      ∃ i, (∀ e, respond sv i (.asSetMembers n) ≠ .err e) ∧
        S = PSet.ofRanges (collect false ((answers sv (i + 1)
          ((respond sv i (.asSetMembers n)).items.flatMap followUps)).map (·.2))) := by
  refine withConn_sat fun c hc => ?_
  obtain ⟨p1, h1, h2, h3, h4⟩ := pop_spec ((PInv.new c hc).push sv (.asSetMembers n)) (.asSetMembers n)
    (respond sv c.nq (.asSetMembers n)) [] (by simp [Irr.push, Pipe.new, hc])
  have h4 : p1.conn.nq = c.nq + 1 := h4
  simp only [h1]
  cases hr : respond sv c.nq (.asSetMembers n) with
  | err e => exact and_assoc.mp ⟨finish h2, fun _ e => by cases e⟩
  | _ =>
    obtain ⟨p', h5, h6⟩ := exchange sv ((respond sv c.nq (.asSetMembers n)).items.flatMap followUps) h2 h3
    rw [hr] at h5
    simp only [h5]
    refine and_assoc.mp ⟨finish h6, ?_⟩
    rintro S ⟨⟩
    refine ⟨c.nq, ?_, ?_⟩
    · rw [hr]; exact fun _ h => by cases h
    · rw [hr, h4]

theorem resolvePeerAs_sat (cfg : Cfg) : (resolvePeerAs cfg).Sat Clean EvOk fun _ => False := by
  unfold resolvePeerAs
  split <;> exact .fail EvOk.closed fun _ e => by cases e

theorem beginEval_clean (st : Ev) (h : Clean st) : Clean (beginEval st) := by
  obtain ⟨c, hc, hu⟩ := h
  exact ⟨{ c with nq := 0 }, by simp [beginEval, hc], hu⟩

theorem evalPse_inv (cfg : Cfg) (sv : Server) (s : PrefixSetExpr) :
    (evalPse (resolvers cfg sv) s).Sat Clean EvOk fun _ => True := by
  rcases s with ms | (_ | _ | _ | n | n | a)
  · exact .pure EvOk.closed trivial
  · exact .pure EvOk.closed trivial
  · exact .pure EvOk.closed trivial
  · exact (resolvePeerAs_sat cfg).mono fun _ _ => trivial
  · exact (resolveRouteSet_sat cfg sv n).mono fun _ _ => trivial
  · exact (resolveAsSet_sat sv n).mono fun _ _ => trivial
  · exact (resolveAutNum_sat sv a).mono fun _ _ => trivial

theorem evaluate_inv (cfg : Cfg) (db : Db) (fuel : Nat) (e : Expr) (faults : Faults) (st : Ev)
    (hst : Clean st) :
    Clean (evaluate cfg db fuel e faults st).2.1 ∧ EvOk (evaluate cfg db fuel e faults st).2.2 :=
  have h := eval_inv EvOk.closed (resolvers cfg { db := db, faults := faults })
    (fun n => (resolveFilterSet_sat _ n).mono fun _ _ => trivial) (evalPse_inv cfg _) fuel e
  ⟨h.inv (beginEval_clean st hst), h.events (beginEval_clean st hst)⟩

end Irr
