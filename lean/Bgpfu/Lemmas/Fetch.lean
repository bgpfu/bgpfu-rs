import Bgpfu.Spec.ConfigGrammar
import Bgpfu.Lemmas.Readers
/-! Lemmas for C16: the event-level loops of `Model/Fetch.lean` on rendered configurations refine a
child-level semantics (`…Abs`, for both `FCfg`s), and the child-level semantics of the reader in /repo now
(`.fixed`) is the specification `select`. -/
namespace Policy
/-- the test vectors of C01 and C16 compare results of readers; it stands here because this is the first module both
import -/
instance exceptDecEq {ε α} [DecidableEq ε] [DecidableEq α] : DecidableEq (Except ε α)
  | .ok a, .ok b => if h : a = b then isTrue (by rw [h]) else isFalse (fun h' => h (by cases h'; rfl))
  | .error a, .error b => if h : a = b then isTrue (by rw [h]) else isFalse (fun h' => h (by cases h'; rfl))
  | .ok _, .error _ => isFalse (fun h => by cases h)
  | .error _, .ok _ => isFalse (fun h => by cases h)

end Policy

namespace Xml

/-- the annotation text one attribute carries: a `jcmd:comment` whose value has the form `bgpfu-fltr: …` (fetch.rs:164-167) -/
def annOf (a : Attr) : Option String := if a.isComment then a.value.bind annotationRaw else none

/-- `attrLoop` (the `for attr in start.attributes()` of `Maybe<Candidate>::read_xml`) on the whole list: a
`jcmd:active="false"` wins wherever it stands, otherwise the last annotation decides; `acc` is the expression found so far -/
def attrsAbs (parseExpr : String → Option String) (acc : Option FExpr) (attrs : List Attr) : AttrOutcome :=
  if attrs.any (fun a => a.isActive && a.value == some "false") then .inactive
  else .expr (match (attrs.filterMap annOf).getLast? with
    | some raw => some (toFExpr parseExpr raw)
    | none => acc)

theorem attrLoop_spec (parseExpr : String → Option String) (attrs : List Attr)
    (hwf : ∀ a ∈ attrs, (a.isActive || a.isComment) = true → a.value.isSome) (acc : Option FExpr) :
    attrLoop parseExpr acc (attrs.map .ok) = .ok (attrsAbs parseExpr acc attrs) := by
  induction attrs generalizing acc with
  | nil => simp [attrLoop, attrsAbs]
  | cons a rest ih =>
    have ih := fun acc => ih (fun x hx => hwf x (by simp [hx])) acc
    have ha := hwf a (by simp)
    simp only [List.map_cons, attrLoop]
    rw [← Attr.isActive, ← Attr.isComment]
    cases h1 : a.isActive with
    | true =>
      obtain ⟨v, hv⟩ := Option.isSome_iff_exists.mp (ha (by simp [h1]))
      have hc : a.isComment = false := by
        simp only [Attr.isActive, Attr.isComment, Bool.and_eq_true, beq_iff_eq] at h1 ⊢
        simp [h1.2]
      by_cases hf : v = "false"
      · simp [attrsAbs, h1, hv, hf]
      · simp [attrsAbs, h1, hv, hf, ih, annOf, hc]
    | false =>
      cases h2 : a.isComment with
      | false => simp [attrsAbs, h1, h2, ih, annOf]
      | true =>
        obtain ⟨v, hv⟩ := Option.isSome_iff_exists.mp (ha (by simp [h2]))
        cases hr : annotationRaw v with
        | none => simp [attrsAbs, h1, h2, hv, hr, ih, annOf]
        | some raw =>
          simp only [Bool.false_eq_true, if_false, if_true, hv, hr, ih, attrsAbs, List.any_cons, h1, Bool.false_and,
            Bool.false_or, List.filterMap_cons, annOf, h2, Option.bind_some, List.getLast?_cons]
          split
          · rfl
          · cases (List.filterMap annOf rest).getLast? <;> rfl

/-- `thenLoop` on the children of `<then>`: whether `<reject/>` was seen and whether anything but it and comments was -/
def thenAbs (c : FCfg) (rj ot : Bool) : List ThenItem → Except Err (Bool × Bool)
  | [] => .ok (rj, ot)
  | .empty t :: cs =>
    if t.is XNM "reject" then thenAbs c true ot cs
    else if c.skipOther then thenAbs c rj true cs else .error .unexpected
  | .comment :: cs => thenAbs c rj ot cs
  | .elem _ _ :: cs => if c.skipOther then thenAbs c rj true cs else .error .unexpected
  | .text _ :: cs => if c.skipOther then thenAbs c rj true cs else .error .unexpected
  | .cdata :: cs => if c.skipOther then thenAbs c rj true cs else .error .unexpected

theorem skipToEnd_elem (raw : String) (inner tail : List Ev) (h : Inert raw inner) :
    skipToEnd raw (inner ++ .end raw :: tail) 0 = .ok tail := by
  rw [skipToEnd_inert _ _ _ _ h]; simp [skipToEnd]

theorem ThenItem.render_pos (x : ThenItem) : 0 < x.render.length := by
  cases x <;> simp [ThenItem.render]

theorem thenLoop_refines (c : FCfg) (cs : List ThenItem) (hwf : ∀ x ∈ cs, x.WF) (fuel : Nat) (raw : String)
    (rj ot : Bool) (rest : List Ev) (hf : (cs.flatMap ThenItem.render).length + 1 ≤ fuel) :
    thenLoop c fuel raw rj ot (cs.flatMap ThenItem.render ++ .end raw :: rest) = liftR (thenAbs c rj ot cs) rest := by
  refine refines_of_pass (L := fun f st => thenLoop c f raw st.1 st.2) (abs := fun st => thenAbs c st.1 st.2)
    ThenItem.render_pos (fun f st => ?_) (fun f st x cs tail hwx hf ih => ?_) cs hwf fuel (rj, ot) hf
  · simp [thenLoop, thenAbs]
  simp only [Prod.forall] at ih
  cases x with
  | elem t inner =>
    simp only [ThenItem.render, List.cons_append, List.append_assoc, List.nil_append, thenLoop, thenAbs, skipToEnd_elem _ _ _ hwx,
      apply_ite (liftR · rest), liftR_error, ih]
  | _ => simp only [ThenItem.render, List.cons_append, List.nil_append, thenLoop, thenAbs, apply_ite (liftR · rest), liftR_error, ih]

/-- `bodyLoop` on the children of an annotated statement: the first `<name>`, `<then>` while `BodySt.thenOpen` holds; every
other child is other content (`/repo` now) or fails the read (pinned snapshot) -/
def bodyAbs (c : FCfg) (unescape : String → Option String) (st : BodySt) : List BodyItem → Except Err BodySt
  | [] => .ok st
  | .name _ _ span _ :: bs =>
    if st.name.isNone then
      (match unescape span with
       | some n => bodyAbs c unescape { st with name := some n } bs
       | none => .error .xml)
    else if c.skipOther then bodyAbs c unescape { st with other := true } bs else .error .unexpected
  | .then_ _ _ _ cs :: bs =>
    if st.thenOpen c then
      (match thenAbs c st.reject st.other cs with
       | .ok (rj, ot) => bodyAbs c unescape { st with reject := rj, other := ot, thenSeen := true } bs
       | .error e => .error e)
    else if c.skipOther then bodyAbs c unescape { st with other := true } bs else .error .unexpected
  | .comment :: bs => bodyAbs c unescape st bs
  | .elem _ _ :: bs => if c.skipOther then bodyAbs c unescape { st with other := true } bs else .error .unexpected
  | .empty _ :: bs => if c.skipOther then bodyAbs c unescape { st with other := true } bs else .error .unexpected
  | .text _ :: bs => if c.skipOther then bodyAbs c unescape { st with other := true } bs else .error .unexpected
  | .cdata :: bs => if c.skipOther then bodyAbs c unescape { st with other := true } bs else .error .unexpected

theorem xnmTag_is (l raw : String) (attrs : List AttrItem) (sp : Option String) (n : String) :
    (xnmTag l raw attrs sp).is XNM n = (l == n) := by
  simp [Tag.is, xnmTag]

theorem xnmTag_raw (l raw : String) (attrs : List AttrItem) (sp : Option String) : (xnmTag l raw attrs sp).raw = raw := rfl

theorem readText_xnm (l raw span : String) (attrs : List AttrItem) (inner tail : List Ev) (h : Inert raw inner) :
    readText (xnmTag l raw attrs (some span)) (inner ++ .end raw :: tail) = .ok (span, tail) := by
  simp [readText, skipToEnd_elem _ _ _ h, xnmTag]

theorem BodyItem.render_pos (b : BodyItem) : 0 < b.render.length := by
  cases b <;> simp [BodyItem.render]

theorem bodyLoop_refines (c : FCfg) (unescape : String → Option String) (bs : List BodyItem)
    (hwf : ∀ b ∈ bs, b.WF unescape) (fuel : Nat) (raw : String) (st : BodySt) (rest : List Ev)
    (hf : (bs.flatMap BodyItem.render).length + 1 ≤ fuel) :
    bodyLoop c unescape fuel raw st (bs.flatMap BodyItem.render ++ .end raw :: rest)
      = liftR (bodyAbs c unescape st bs) rest := by
  refine refines_of_pass (L := fun f st => bodyLoop c unescape f raw st) (abs := bodyAbs c unescape)
    BodyItem.render_pos (fun f st => ?_) (fun f st b bs tail hb hf ih => ?_) bs hwf fuel st hf
  · simp [bodyLoop, bodyAbs]
  cases b with
  | elem t inner =>
    simp only [BodyItem.render, List.cons_append, List.append_assoc, List.nil_append, bodyLoop, bodyAbs, hb.2.1, hb.2.2,
      Bool.false_and, Bool.false_eq_true, if_false, skipToEnd_elem _ _ _ hb.1, apply_ite (liftR · rest), liftR_error, ih]
  | name nraw attrs span inner =>
    obtain ⟨n, hn⟩ := Option.isSome_iff_exists.mp hb.2
    simp only [BodyItem.render, List.cons_append, List.append_assoc, List.nil_append, bodyLoop, bodyAbs, xnmTag_is, xnmTag_raw,
      String.reduceBEq, beq_self_eq_true, Bool.true_and, Bool.false_and, Bool.false_eq_true, if_false, readName,
      readText_xnm _ _ _ _ _ _ hb.1, hn, skipToEnd_elem _ _ _ hb.1, apply_ite (liftR · rest), liftR_error, ih]
  | then_ traw attrs span cs =>
    have ht := fun rj ot tail => thenLoop_refines c cs hb.1 f traw rj ot tail
      (by simp only [BodyItem.render, List.length_cons, List.length_append] at hf; omega)
    simp only [BodyItem.render, List.cons_append, List.append_assoc, List.nil_append, bodyLoop, bodyAbs, xnmTag_is, xnmTag_raw,
      String.reduceBEq, beq_self_eq_true, Bool.true_and, Bool.false_and, Bool.false_eq_true, if_false, ht,
      skipToEnd_elem _ _ _ hb.2, apply_ite (liftR · rest), liftR_error, ih]
    cases thenAbs c st.reject st.other cs <;> simp only [liftR_ok, liftR_error, ih]
  | _ =>
    simp only [BodyItem.render, List.cons_append, List.nil_append, bodyLoop, bodyAbs, apply_ite (liftR · rest), liftR_error, ih]

/-- `Maybe<Candidate>::read_xml` on one statement: the attributes decide whether the body is read at all, `BodySt.finish`
whether the statement is a candidate -/
def stmtAbs (c : FCfg) (parseExpr unescape : String → Option String) (s : Stmt) : Except Err (Option (String × FExpr)) :=
  match attrsAbs parseExpr none s.attrs with
  | .inactive => .ok none
  | .expr none => .ok none
  | .expr (some fe) =>
    match bodyAbs c unescape {} s.body with
    | .error e => .error e
    | .ok st => st.finish fe

theorem Stmt.render_eq (s : Stmt) (tail : List Ev) :
    s.render ++ tail = .start s.tag :: (s.body.flatMap BodyItem.render ++ .end s.raw :: tail) := by
  simp [Stmt.render]

theorem Stmt.render_length (s : Stmt) : s.render.length = (s.body.flatMap BodyItem.render).length + 2 := by
  simp [Stmt.render]

theorem readCandidate_refines (c : FCfg) (parseExpr unescape : String → Option String) (s : Stmt)
    (hwf : s.WF unescape) (fuel : Nat) (tail : List Ev) (hf : s.render.length ≤ fuel + 1) :
    readCandidate c parseExpr unescape fuel s.tag (s.body.flatMap BodyItem.render ++ .end s.raw :: tail)
      = liftR (stmtAbs c parseExpr unescape s) tail := by
  rw [Stmt.render_length] at hf
  have hskip : ∀ {α}, (skipStmt s.tag (s.body.flatMap BodyItem.render ++ .end s.raw :: tail) : Except Err (Option α × List Ev))
      = .ok (none, tail) := by
    intro α
    rw [skipStmt, Stmt.tag, xnmTag_raw, skipToEnd_elem _ _ _ hwf.inert]
  unfold readCandidate stmtAbs
  have ha : attrLoop parseExpr none s.tag.attrs = .ok (attrsAbs parseExpr none s.attrs) := by
    simpa [Stmt.tag, xnmTag] using attrLoop_spec parseExpr s.attrs hwf.attrs none
  rw [ha]
  cases hx : attrsAbs parseExpr none s.attrs with
  | inactive => simp only []; rw [hskip]; rfl
  | expr e =>
    cases e with
    | none => simp only []; rw [hskip]; rfl
    | some fe =>
      simp only []
      have hb := bodyLoop_refines c unescape s.body hwf.body fuel s.raw {} tail (by omega)
      have : s.tag.raw = s.raw := rfl
      rw [this, hb]
      cases hr : bodyAbs c unescape {} s.body with
      | error e => simp
      | ok st =>
        simp only [liftR_ok]
        cases st.finish fe <;> simp

/-- `policyOptionsLoop` (the innermost loop of `Policies<T>::read_xml`) over the children of `<policy-options>`: a statement
whose name is already in `map` fails the whole read -/
def poAbs {T} (sem : Stmt → Except Err (Option (String × T))) (map : List (String × T)) : List PoItem →
    Except Err (List (String × T))
  | [] => .ok map
  | .comment :: is => poAbs sem map is
  | .stmt s :: is =>
    match sem s with
    | .error e => .error e
    | .ok none => poAbs sem map is
    | .ok (some (n, p)) => if map.any (·.1 == n) then .error .other else poAbs sem (map ++ [(n, p)]) is

/-- what the three outer loops need of the statement reader they are generic in: on each rendered statement of `ss` it returns
what `sem` says, with any fuel that exceeds the number of events -/
def StmtReader.Reads {T} (rd : StmtReader T) (sem : Stmt → Except Err (Option (String × T))) (ss : List Stmt) : Prop :=
  ∀ s ∈ ss, ∀ (fuel : Nat) (tail : List Ev), s.render.length ≤ fuel + 1 →
    rd fuel s.tag (s.body.flatMap BodyItem.render ++ .end s.raw :: tail) = liftR (sem s) tail

theorem Stmt.tag_is (s : Stmt) : s.tag.is XNM "policy-statement" = true := by simp [Stmt.tag, xnmTag_is]

theorem PoItem.render_pos (x : PoItem) : 0 < x.render.length := by
  cases x <;> simp [PoItem.render, Stmt.render]

theorem policyOptionsLoop_refines {T} (rd : StmtReader T) (sem : Stmt → Except Err (Option (String × T)))
    (items : List PoItem) (hrd : StmtReader.Reads rd sem (stmtsOf items)) (fuel : Nat) (raw : String)
    (map : List (String × T)) (rest : List Ev) (hf : (items.flatMap PoItem.render).length + 1 ≤ fuel) :
    policyOptionsLoop rd fuel raw map (items.flatMap PoItem.render ++ .end raw :: rest)
      = liftR (poAbs sem map items) rest := by
  refine refines_of_pass (L := fun f map => policyOptionsLoop rd f raw map) (abs := poAbs sem)
    (WF := fun x => ∀ s, x = .stmt s → StmtReader.Reads rd sem [s]) PoItem.render_pos (fun f map => ?_)
    (fun f map x is tail hx hf ih => ?_) items
    (fun x hx s e y hy => hrd y (List.mem_filterMap.mpr ⟨x, hx, by rw [e, List.mem_singleton.mp hy]⟩)) fuel map hf
  · simp [policyOptionsLoop, poAbs]
  cases x with
  | comment => simp only [PoItem.render, List.cons_append, List.nil_append, policyOptionsLoop, poAbs, ih]
  | stmt s =>
    have hs := hx s rfl s (List.mem_singleton_self s) f tail (by simp only [PoItem.render] at hf; omega)
    simp only [PoItem.render, Stmt.render_eq, policyOptionsLoop, Stmt.tag_is, if_true, hs, poAbs]
    rcases sem s with e | _ | ⟨n, p⟩ <;> simp only [liftR_ok, liftR_error, apply_ite (liftR · rest), ih]

theorem configurationLoop_comments {T} (rd : StmtReader T) (n fuel : Nat) (raw : String) (seen : Bool)
    (map : List (String × T)) (tail : List Ev) :
    configurationLoop rd (fuel + n) raw seen map (comments n ++ tail) = configurationLoop rd fuel raw seen map tail := by
  induction n with
  | zero => rfl
  | succ n ih => exact ih  -- the iteration that skips the first comment is a computation step

theorem policiesLoop_comments {T} (rd : StmtReader T) (n fuel : Nat) (raw : String)
    (this : Option (List (String × T))) (tail : List Ev) :
    policiesLoop rd (fuel + n) raw this (comments n ++ tail) = policiesLoop rd fuel raw this tail := by
  induction n with
  | zero => rfl
  | succ n ih => exact ih  -- the iteration that skips the first comment is a computation step

theorem Config.render_length (cfg : Config) (dataRaw : String) :
    (cfg.render dataRaw).length = cfg.c1 + cfg.c2 + cfg.c3 + cfg.c4 + (cfg.items.flatMap PoItem.render).length + 5 := by
  simp [Config.render, comments]; omega

theorem policiesLoop_render {T} (rd : StmtReader T) (sem : Stmt → Except Err (Option (String × T)))
    (cfg : Config) (hrd : StmtReader.Reads rd sem cfg.stmts) (dataRaw : String) (rest : List Ev) (fuel : Nat)
    (hf : (cfg.render dataRaw).length + 1 ≤ fuel) :
    policiesLoop rd fuel dataRaw none (cfg.render dataRaw ++ rest) = poAbs sem [] cfg.items := by
  rw [Config.render_length] at hf
  simp only [Config.render, List.append_assoc, List.cons_append]
  -- the fuel is taken apart level by level: `f1` is left for the children of `<configuration>`, `f2` for those of `<policy-options>`
  obtain ⟨f1, rfl⟩ : ∃ f, fuel = f + 1 + cfg.c1 := ⟨fuel - (cfg.c1 + 1), by omega⟩
  rw [policiesLoop_comments, policiesLoop]
  simp only [xnmTag_is, beq_self_eq_true, Option.isNone_none, Bool.and_self, if_true, xnmTag_raw]
  obtain ⟨f2, rfl⟩ : ∃ f, f1 = f + 1 + cfg.c3 := ⟨f1 - (cfg.c3 + 1), by omega⟩
  rw [configurationLoop_comments, configurationLoop]
  simp only [xnmTag_is, beq_self_eq_true, Bool.not_false, Bool.and_self, if_true, xnmTag_raw]
  rw [policyOptionsLoop_refines rd sem cfg.items hrd f2 cfg.poRaw [] _ (by omega)]
  cases poAbs sem [] cfg.items with
  | error e => rfl
  | ok map =>
    obtain ⟨f3, rfl⟩ : ∃ f, f2 = f + 1 + cfg.c4 := ⟨f2 - (cfg.c4 + 1), by omega⟩
    simp only [liftR_ok]
    rw [configurationLoop_comments, configurationLoop]
    simp only [beq_self_eq_true, if_true]
    obtain ⟨f4, h4⟩ : ∃ f, f3 + 1 + cfg.c4 + 1 + cfg.c3 = f + 1 + cfg.c2 := ⟨f3 + cfg.c4 + 1 + cfg.c3 - cfg.c2, by omega⟩
    rw [h4, policiesLoop_comments, policiesLoop]
    simp

@[simp] theorem FCfg.fixed_skipOther : FCfg.fixed.skipOther = true := rfl
@[simp] theorem FCfg.fixed_thenOnce : FCfg.fixed.thenOnce = true := rfl
@[simp] theorem FCfg.pinned_skipOther : FCfg.pinned.skipOther = false := rfl
@[simp] theorem FCfg.pinned_thenOnce : FCfg.pinned.thenOnce = false := rfl

/-- `thenAbs` in closed form: the pinned snapshot fails at the first child that is neither `<reject/>` nor a
comment, the reader in /repo now remembers it -/
theorem thenAbs_eq (c : FCfg) (cs : List ThenItem) (rj ot : Bool) :
    thenAbs c rj ot cs =
      if c.skipOther || !cs.any ThenItem.isDirty then .ok (rj || cs.any ThenItem.isReject, ot || cs.any ThenItem.isDirty)
      else .error .unexpected := by
  induction cs generalizing rj ot with
  | nil => simp [thenAbs]
  | cons x cs ih =>
    have hd : ∀ y : ThenItem, y.isDirty = true → y.isReject = false →
        (if c.skipOther then thenAbs c rj true cs else .error .unexpected) =
          if c.skipOther || !(y :: cs).any ThenItem.isDirty
          then .ok (rj || (y :: cs).any ThenItem.isReject, ot || (y :: cs).any ThenItem.isDirty) else .error .unexpected := by
      intro y h1 h2
      cases hs : c.skipOther <;> simp [ih, hs, h1, h2]
    cases x with
    | comment =>
      simp only [thenAbs, ih, List.any_cons]
      rfl
    | elem t i => exact hd _ rfl rfl
    | text s => exact hd _ rfl rfl
    | cdata => exact hd _ rfl rfl
    | empty t =>
      cases ht : t.is XNM "reject" with
      | true =>
        simp only [thenAbs, ht, if_true, ih, List.any_cons, ThenItem.isDirty, ThenItem.isReject, Bool.true_or, Bool.or_true,
          Bool.not_true, Bool.false_or]
      | false =>
        simp only [thenAbs, ht, Bool.false_eq_true, if_false]
        exact hd _ (by simp [ThenItem.isDirty, ThenItem.isReject, ThenItem.isComment, ht]) ht

theorem bodyNames_cons (b : BodyItem) (bs : List BodyItem) :
    bodyNames (b :: bs) = (match b with | .name _ _ span _ => [span] | _ => []) ++ bodyNames bs := by
  cases b <;> rfl

theorem bodyThens_cons (b : BodyItem) (bs : List BodyItem) :
    bodyThens (b :: bs) = (match b with | .then_ _ _ _ cs => [cs] | _ => []) ++ bodyThens bs := by
  cases b <;> rfl

/-- what the body scan of the reader in /repo now ends with, as a function of the whole body -/
def bodyFinal (unescape : String → Option String) (st : BodySt) (bs : List BodyItem) : BodySt :=
  { name := if st.name.isSome then st.name else (bodyNames bs).head?.bind unescape
    reject := st.reject || (!st.thenSeen && (bodyThens bs).head?.any (·.any ThenItem.isReject))
    thenSeen := st.thenSeen || !(bodyThens bs).isEmpty
    other := st.other || bs.any BodyItem.isOther
            || decide (1 < (bodyNames bs).length + st.name.isSome.toNat)
            || decide (1 < (bodyThens bs).length + st.thenSeen.toNat)
            || (!st.thenSeen && (bodyThens bs).head?.any (·.any ThenItem.isDirty)) }

theorem bodyAbs_fixed (unescape : String → Option String) (bs : List BodyItem)
    (hwf : ∀ b ∈ bs, b.WF unescape) (st : BodySt) :
    bodyAbs .fixed unescape st bs = .ok (bodyFinal unescape st bs) := by
  induction bs generalizing st with
  | nil =>
    obtain ⟨nm, rj, ts, ot⟩ := st
    cases nm <;> cases ts <;> simp [bodyAbs, bodyFinal, bodyNames, bodyThens]
  | cons b bs ih =>
    have hwf' : ∀ b ∈ bs, b.WF unescape := fun y hy => hwf y (by simp [hy])
    have hb := hwf b (by simp)
    obtain ⟨nm, rj, ts, ot⟩ := st
    cases b with
    | name nraw attrs span inner =>
      obtain ⟨n, hn⟩ := Option.isSome_iff_exists.mp hb.2
      cases nm with
      | none =>
        simp only [bodyAbs, Option.isNone_none, if_true, hn]; rw [ih hwf']
        simp [bodyFinal, bodyNames_cons, bodyThens_cons, BodyItem.isOther, hn]
      | some m =>
        simp only [bodyAbs, Option.isNone_some, Bool.false_eq_true, if_false, FCfg.fixed_skipOther, if_true]; rw [ih hwf']
        simp [bodyFinal, bodyNames_cons, bodyThens_cons, BodyItem.isOther]
    | then_ traw attrs span cs =>
      cases ts with
      | false =>
        simp only [bodyAbs, BodySt.thenOpen, FCfg.fixed_thenOnce, if_true, Bool.not_false, thenAbs_eq, FCfg.fixed_skipOther,
          Bool.true_or]; rw [ih hwf']
        simp [bodyFinal, bodyNames_cons, bodyThens_cons, BodyItem.isOther]
        ac_rfl
      | true =>
        simp only [bodyAbs, BodySt.thenOpen, FCfg.fixed_thenOnce, if_true, Bool.not_true, Bool.false_eq_true, if_false,
          FCfg.fixed_skipOther]; rw [ih hwf']
        simp [bodyFinal, bodyNames_cons, bodyThens_cons, BodyItem.isOther]
    | _ =>
      simp only [bodyAbs, FCfg.fixed_skipOther, if_true]; rw [ih hwf']
      simp [bodyFinal, bodyNames_cons, bodyThens_cons, BodyItem.isOther]

theorem attrsAbs_eq (parseExpr : String → Option String) (s : Stmt) :
    attrsAbs parseExpr none s.attrs
      = if s.inactive then .inactive else .expr (s.annotation.map (toFExpr parseExpr)) := by
  unfold attrsAbs Stmt.inactive Stmt.annotation Stmt.annotations
  have : (fun a : Attr => if a.isComment then a.value.bind annotationRaw else none) = annOf := by
    funext a; rfl
  rw [this]
  split
  · rfl
  · cases (List.filterMap annOf s.attrs).getLast? <;> rfl

theorem all_clean_eq (cs : List ThenItem) :
    (cs.all fun c => c.isReject || c.isComment) = !cs.any ThenItem.isDirty := by
  induction cs with
  | nil => rfl
  | cons c cs ih => simp [List.all_cons, List.any_cons, ih, ThenItem.isDirty]

theorem keyed_names (bs : List BodyItem) (h : bs.any BodyItem.isName = true) : 1 ≤ (bodyNames bs).length := by
  induction bs with
  | nil => simp at h
  | cons b bs ih =>
    rw [bodyNames_cons]
    cases b with
    | name => exact Nat.le_add_left 1 _
    | _ => exact ih h

theorem mem_bodyNames (bs : List BodyItem) (span : String) (h : span ∈ bodyNames bs) :
    ∃ raw attrs inner, BodyItem.name raw attrs span inner ∈ bs := by
  induction bs with
  | nil => simp [bodyNames] at h
  | cons b bs ih =>
    rw [bodyNames_cons] at h
    cases b with
    | name r a sp i =>
      simp only [List.cons_append, List.nil_append, List.mem_cons] at h
      rcases h with rfl | h
      · exact ⟨r, a, i, by simp⟩
      · obtain ⟨r', a', i', hm⟩ := ih h; exact ⟨r', a', i', by simp [hm]⟩
    | _ =>
      simp only [List.nil_append] at h
      obtain ⟨r', a', i', hm⟩ := ih h; exact ⟨r', a', i', by simp [hm]⟩

theorem stmtAbs_fixed (parseExpr unescape : String → Option String) (s : Stmt) (hwf : s.WF unescape) :
    stmtAbs .fixed parseExpr unescape s = .ok (s.selected parseExpr unescape) := by
  unfold stmtAbs Stmt.selected
  rw [attrsAbs_eq]
  cases hi : s.inactive with
  | true => simp
  | false =>
    simp only [Bool.false_eq_true, if_false]
    cases ha : s.annotation with
    | none => simp
    | some raw =>
      simp only [Option.map_some, bodyAbs_fixed unescape s.body hwf.body]
      have hk := keyed_names s.body hwf.keyed
      unfold BodySt.finish Stmt.defaultReject Stmt.names Stmt.thens
      simp only [bodyFinal]
      cases hn : bodyNames s.body with
      | nil => simp [hn] at hk
      | cons span ns =>
        obtain ⟨_, _, _, hm⟩ := mem_bodyNames s.body span (by simp [hn])
        obtain ⟨n, hu⟩ := Option.isSome_iff_exists.mp (hwf.body _ hm).2
        cases ht : bodyThens s.body with
        | nil => simp
        | cons cs ts =>
          cases ts with
          | nil =>
            simp only [isDefaultReject, all_clean_eq]
            cases ns with
            | nil =>
              simp only [List.head?_cons, Option.any_some, Option.bind_some, hu, List.length_cons, List.length_nil,
                Option.isSome_none, Bool.toNat_false, Bool.not_false, Bool.true_and, Bool.false_or, Option.map_some]
              generalize s.body.any BodyItem.isOther = o
              generalize cs.any ThenItem.isReject = r
              generalize cs.any ThenItem.isDirty = d
              cases o <;> cases r <;> cases d <;> rfl
            | cons m ms => simp
          | cons cs' ts' => simp

/-- the duplicate check of `policyOptionsLoop` on the selected pairs alone: `HashMap` entries are inserted one by one, a name
already there fails -/
def addAll {T} (map : List (String × T)) : List (String × T) → Except Err (List (String × T))
  | [] => .ok map
  | x :: xs => if map.any (·.1 == x.1) then .error .other else addAll (map ++ [x]) xs

theorem poAbs_ok {T} (sem : Stmt → Except Err (Option (String × T))) (sel : Stmt → Option (String × T))
    (items : List PoItem) (h : ∀ s ∈ stmtsOf items, sem s = .ok (sel s)) (map : List (String × T)) :
    poAbs sem map items = addAll map ((stmtsOf items).filterMap sel) := by
  induction items generalizing map with
  | nil => rfl
  | cons x is ih =>
    cases x with
    | comment => exact ih h map
    | stmt s =>
      obtain ⟨hs, h'⟩ := List.forall_mem_cons.mp h
      simp only [poAbs, hs]
      rw [show stmtsOf (.stmt s :: is) = s :: stmtsOf is from rfl, List.filterMap_cons]
      cases hsel : sel s with
      | none => exact ih h' map
      | some np =>
        obtain ⟨n, p⟩ := np
        simp only [addAll]
        split
        · rfl
        · exact ih h' _

theorem all_snoc {T} (map : List (String × T)) (x : String × T) (xs : List (String × T)) :
    (xs.all fun y => !(map ++ [x]).any (·.1 == y.1))
      = ((xs.all fun y => !map.any (·.1 == y.1)) && !xs.any (·.1 == x.1)) := by
  induction xs with
  | nil => rfl
  | cons y ys ih =>
    have hc : (y.1 == x.1) = (x.1 == y.1) := by
      rw [Bool.eq_iff_iff]; simp only [beq_iff_eq]; exact eq_comm
    rw [List.all_cons, List.all_cons, List.any_cons, ih, List.any_append]
    simp only [List.any_cons, List.any_nil, Bool.or_false, hc]
    generalize map.any (fun z => z.1 == y.1) = a
    generalize (x.1 == y.1) = b
    generalize (ys.all fun y => !map.any (·.1 == y.1)) = c
    generalize ys.any (·.1 == x.1) = d
    cases a <;> cases b <;> cases c <;> cases d <;> rfl

theorem addAll_eq {T} (map l : List (String × T)) :
    addAll map l = if nodupNames l && l.all (fun x => !map.any (·.1 == x.1)) then .ok (map ++ l) else .error .other := by
  induction l generalizing map with
  | nil => simp [addAll, nodupNames]
  | cons x xs ih =>
    simp only [addAll, nodupNames, List.all_cons]
    rw [ih, all_snoc]
    by_cases ha : (map.any fun z => z.1 == x.1) = true
    · simp [ha]
    · by_cases hb : (xs.any fun z => z.1 == x.1) = true <;> by_cases hc : nodupNames xs = true <;>
        by_cases hd : (xs.all fun y => !map.any fun z => z.1 == y.1) = true <;> simp [ha, hb, hc, hd]

theorem addAll_nil {T} (l : List (String × T)) :
    addAll [] l = if nodupNames l then .ok l else .error .other := by
  rw [addAll_eq]; simp

theorem poAbs_select {parseExpr unescape : String → Option String} {cfg : Config}
    {sem : Stmt → Except Err (Option (String × FExpr))}
    (h : ∀ s ∈ cfg.stmts, sem s = .ok (s.selected parseExpr unescape)) :
    poAbs sem [] cfg.items = select parseExpr unescape cfg := by
  rw [poAbs_ok _ _ cfg.items h, addAll_nil]
  rfl

theorem bodyAbs_pinned_plain (unescape : String → Option String) (bs : List BodyItem) (st : BodySt)
    (hinv : st.thenSeen = false → st.reject = false)
    (ho : bs.any BodyItem.isOther = false)
    (hn : (bodyNames bs).length + st.name.isSome.toNat ≤ 1)
    (ht : (bodyThens bs).length + st.thenSeen.toNat ≤ 1)
    (hc : ∀ cs ∈ bodyThens bs, cs.any ThenItem.isDirty = false) :
    bodyAbs .pinned unescape st bs = bodyAbs .fixed unescape st bs := by
  induction bs generalizing st with
  | nil => rfl
  | cons b bs ih =>
    simp only [List.any_cons, Bool.or_eq_false_iff] at ho
    rw [bodyNames_cons] at hn
    rw [bodyThens_cons] at ht hc
    obtain ⟨nm, rj, ts, ot⟩ := st
    cases b with
    | comment => simp only [bodyAbs]; exact ih _ hinv ho.2 (by simpa using hn) (by simpa using ht) (by simpa using hc)
    | name nraw attrs span inner =>
      cases nm with
      | some m => simp at hn
      | none =>
        simp only [bodyAbs, Option.isNone_none, if_true]
        cases unescape span with
        | none => rfl
        | some n => exact ih _ hinv ho.2 (by simpa using hn) (by simpa using ht) (by simpa using hc)
    | then_ traw attrs span cs =>
      cases ts with
      | true => simp at ht
      | false =>
        have hrj : rj = false := hinv rfl
        simp only [bodyAbs, BodySt.thenOpen, FCfg.pinned_thenOnce, FCfg.fixed_thenOnce, hrj, Bool.not_false,
          Bool.false_eq_true, if_false, if_true, thenAbs_eq, hc cs (by simp), Bool.or_true, Bool.or_false]
        exact ih _ (by simp) ho.2 (by simpa using hn) (by simpa using ht) (fun x hx => hc x (by simp [hx]))
    | _ => cases ho.1

theorem stmtAbs_pinned_plain (parseExpr unescape : String → Option String) (s : Stmt)
    (h : s.inactive = false → s.annotation.isSome → s.plain = true) :
    stmtAbs .pinned parseExpr unescape s = stmtAbs .fixed parseExpr unescape s := by
  unfold stmtAbs
  rw [attrsAbs_eq]
  cases hi : s.inactive with
  | true => rfl
  | false =>
    cases ha : s.annotation with
    | none => rfl
    | some raw =>
      have hp := h hi (by simp [ha])
      simp only [Stmt.plain, Bool.and_eq_true, Bool.not_eq_true', Stmt.names, Stmt.thens,
        List.all_eq_true] at hp
      obtain ⟨⟨⟨h1, h2⟩, h3⟩, h4⟩ := hp
      have := bodyAbs_pinned_plain unescape s.body {} (by simp) h1 (by simpa using of_decide_eq_true h2) (by simpa using of_decide_eq_true h3)
        (fun cs hcs => by simpa using h4 cs hcs)
      simp only [Bool.false_eq_true, if_false, Option.map_some, this]

theorem select_ok {parseExpr unescape : String → Option String} {cfg : Config} {l : List (String × FExpr)}
    (h : select parseExpr unescape cfg = .ok l) : l = cfg.stmts.filterMap (Stmt.selected parseExpr unescape) := by
  unfold select at h
  simp only [] at h
  split at h
  · exact (Except.ok.inj h).symm
  · cases h

/-- what `names_exprs_exact` (C16) says of a pair the reader returns for statement `s` -/
structure SelectedFrom (parseExpr unescape : String → Option String) (s : Stmt) (n : String) (e : FExpr) : Prop where
  active : s.inactive = false
  defaultReject : s.defaultReject = true
  /-- the name is the unescaped text of the statement's `<name>` element -/
  name : ∃ raw attrs span inner, BodyItem.name raw attrs span inner ∈ s.body ∧ s.names = [span] ∧ unescape span = some n
  /-- the expression is the parser's verdict on exactly the annotation text of the statement's last
  annotation attribute, after decoration stripping -/
  expr : ∃ a ∈ s.attrs, ∃ v raw, a.isComment = true ∧ a.value = some v ∧ annotationRaw v = some raw ∧
    s.annotation = some raw ∧ e = toFExpr parseExpr raw

theorem selected_some (parseExpr unescape : String → Option String) (s : Stmt) (n : String) (e : FExpr)
    (h : s.selected parseExpr unescape = some (n, e)) : SelectedFrom parseExpr unescape s n e := by
  unfold Stmt.selected at h
  cases hi : s.inactive with
  | true => simp [hi] at h
  | false =>
    simp only [hi, Bool.false_eq_true, if_false] at h
    cases ha : s.annotation with
    | none => simp [ha] at h
    | some raw =>
      simp only [ha] at h
      cases hd : s.defaultReject with
      | false => simp [hd] at h
      | true =>
        simp only [hd, if_true, Option.map_eq_some_iff, Prod.mk.injEq] at h
        obtain ⟨n', hn', rfl, rfl⟩ := h
        obtain ⟨span, hspan⟩ : ∃ span, s.names = [span] := by
          simp only [Stmt.defaultReject, Bool.and_eq_true, beq_iff_eq] at hd
          exact List.length_eq_one_iff.mp hd.1.2
        have hu : unescape span = some n' := by simpa [hspan] using hn'
        obtain ⟨r, a, i, hm⟩ := mem_bodyNames s.body span (show span ∈ s.names by simp [hspan])
        refine ⟨hi, hd, ⟨r, a, span, i, hm, hspan, hu⟩, ?_⟩
        have hmem : raw ∈ s.annotations := List.mem_of_getLast? ha
        simp only [Stmt.annotations, List.mem_filterMap] at hmem
        obtain ⟨at', hat, hv⟩ := hmem
        by_cases hc : at'.isComment = true
        · simp only [hc, if_true] at hv
          cases hval : at'.value with
          | none => simp [hval] at hv
          | some v =>
            simp only [hval, Option.bind_some] at hv
            exact ⟨at', hat, v, raw, hc, hval, hv, ha, rfl⟩
        · simp [hc] at hv

end Xml
