import Bgpfu.Lemmas.Totality
/-!
Another prefix (or the default namespace) for the same namespace URI changes, in the event list, exactly the
raw qualified names: `Tag.raw` of `Start`/`Empty` events and the name of `End` events (C13). `renameEvs f` is
that rewrite; a reader commutes with it when `f` is injective, since it only ever compares a raw name with
another raw name of the same document (`read_to_end(name)`, end-name matching). Here: `read_to_end` and
`read_text` under the rewrite (the loops of `Model/Readers.lean` and `Model/Hello.lean` have it from
`readLoop_rename`, those of the configuration readers from `Lemmas/FetchRename.lean`).
-/
namespace Xml

def renameTag (f : String → String) (t : Tag) : Tag := { t with raw := f t.raw }

def renameEv (f : String → String) : Ev → Ev
  | .start t => .start (renameTag f t)
  | .empty t => .empty (renameTag f t)
  | .end raw => .end (f raw)
  | .text s => .text s
  | .cdata => .cdata
  | .comment => .comment
  | .decl => .decl
  | .pi => .pi
  | .doctype => .doctype
  | .eof => .eof
  | .error => .error

def renameEvs (f : String → String) : List Ev → List Ev := List.map (renameEv f)

def Inj (f : String → String) : Prop := ∀ a b, f a = f b → a = b

theorem Inj.beq {f : String → String} (hf : Inj f) (a b : String) : (f a == f b) = (a == b) := by
  by_cases h : a = b
  · subst h; simp
  · have : f a ≠ f b := fun h' => h (hf a b h')
    rw [beq_eq_false_iff_ne.mpr this, beq_eq_false_iff_ne.mpr h]

def mapRest {α} (f : String → String) : Except Err (α × List Ev) → Except Err (α × List Ev)
  | .ok (v, r) => .ok (v, renameEvs f r)
  | .error e => .error e

@[simp] theorem mapRest_ok {α} (f : String → String) (v : α) (r : List Ev) :
    mapRest f (.ok (v, r)) = .ok (v, renameEvs f r) := rfl
@[simp] theorem mapRest_error {α} (f : String → String) (e : Err) :
    mapRest (α := α) f (.error e) = .error e := rfl

theorem mapRest_eq {α} (f : String → String) : mapRest (α := α) f = mapEvs (renameEvs f) := rfl

@[simp] theorem renameEvs_nil (f : String → String) : renameEvs f [] = [] := rfl
@[simp] theorem renameEvs_cons (f : String → String) (e : Ev) (r : List Ev) :
    renameEvs f (e :: r) = renameEv f e :: renameEvs f r := rfl
@[simp] theorem renameEvs_length (f : String → String) (evs : List Ev) : (renameEvs f evs).length = evs.length := by
  simp [renameEvs]

@[simp] theorem renameTag_ns (f : String → String) (t : Tag) : (renameTag f t).ns = t.ns := rfl
@[simp] theorem renameTag_lname (f : String → String) (t : Tag) : (renameTag f t).lname = t.lname := rfl
@[simp] theorem renameTag_raw (f : String → String) (t : Tag) : (renameTag f t).raw = f t.raw := rfl
@[simp] theorem renameTag_attrs (f : String → String) (t : Tag) : (renameTag f t).attrs = t.attrs := rfl
@[simp] theorem renameTag_span (f : String → String) (t : Tag) : (renameTag f t).span = t.span := rfl
@[simp] theorem renameTag_is (f : String → String) (t : Tag) (u n : String) : (renameTag f t).is u n = t.is u n := rfl

theorem Ev.kind_rename {f : String → String} (hf : Inj f) (name : String) (ev : Ev) :
    (renameEv f ev).kind (f name) = ev.kind name := by
  cases ev <;> simp only [renameEv, Ev.kind, renameTag_raw, hf.beq]

theorem skipToEnd_rename {f : String → String} (hf : Inj f) (name : String) (evs : List Ev) (d : Nat) :
    skipToEnd (f name) (renameEvs f evs) d = (match skipToEnd name evs d with
      | .ok r => .ok (renameEvs f r) | .error e => .error e) := by
  induction evs generalizing d with
  | nil => rfl
  | cons ev rest ih =>
    rw [renameEvs_cons, skipToEnd_cons, skipToEnd_cons, Ev.kind_rename hf]
    cases ev.kind name with
    | error => rfl
    | eof => rfl
    | opens => exact ih _
    | closes =>
      cases d with
      | zero => rfl
      | succ d => exact ih _
    | other => exact ih _

theorem readText_rename {f : String → String} (hf : Inj f) (t : Tag) (rest : List Ev) :
    readText (renameTag f t) (renameEvs f rest) = mapRest f (readText t rest) := by
  simp only [readText, renameTag_raw, renameTag_span, skipToEnd_rename hf]
  cases skipToEnd t.raw rest 0 with
  | error e => rfl
  | ok r => cases t.span <;> rfl

theorem skipToEndLenient_rename {f : String → String} (hf : Inj f) (name : String) (evs : List Ev) (d : Nat) :
    skipToEndLenient (f name) (renameEvs f evs) d = renameEvs f (skipToEndLenient name evs d) := by
  induction evs generalizing d with
  | nil => rfl
  | cons ev rest ih =>
    rw [renameEvs_cons, skipToEndLenient_cons, skipToEndLenient_cons, Ev.kind_rename hf]
    cases ev.kind name with
    | error => rfl
    | eof => rfl
    | opens => exact ih _
    | closes =>
      cases d with
      | zero => rfl
      | succ d => exact ih _
    | other => exact ih _

end Xml
