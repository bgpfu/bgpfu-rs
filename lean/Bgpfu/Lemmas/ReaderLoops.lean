import Bgpfu.Spec.HelloGrammar
import Bgpfu.Spec.ReplyGrammar
import Bgpfu.Lemmas.ElemLoop
/-!
The reader loops of `Model/Readers.lean` and `Model/Hello.lean` as instances of `readLoop`
(`Lemmas/ElemLoop.lean`): per loop its arms, written arm for arm like the model, and the theorem that the
model loop is `readLoop` of them. What C13 and C14 need of the loops and of whole messages follows from
the four properties of `readLoop`. In the agreement proofs (`fun_induction` on the model loop) the last case
is named by its number: it is the model's catch-all arm `| _ => .error .unexpected`, where the event is a
variable and the hypotheses say which events it is not (those the earlier arms take); `readLoop` rejects the
same events (`readLoop_elem_other`, `readDoc_other`). Every other case is an arm written out, and unfolding both
sides does it - but for one: the end tag of `helloLoop` (`case12` of `helloLoop_eq`), where the model matches on
two components of the state at once and the case is split by hand.
-/
namespace Xml

theorem Tag.is_eq (t : Tag) (u n : String) : (t.ns == .bound u && t.lname == n) = t.is u n := rfl

/-! ### `rpc::error::Info::read_xml` -/

def infoStart (acc : List InfoElem) (ns : Ns) (ln : String) : Option (RReader (List InfoElem)) :=
  if ns == .bound BASE then
    if ln == "bad-attribute" then some (RReader.text.map fun s => acc ++ [.badAttribute s])
    else if ln == "bad-element" then some (RReader.text.map fun s => acc ++ [.badElement s])
    else if ln == "bad-namespace" then some (RReader.text.map fun s => acc ++ [.badNamespace s])
    else if ln == "session-id" then some (RReader.text.parse
      (fun s => (parseU32 (trim s)).map fun n => acc ++ [.sessionId (if n == 0 then none else some n)]) .parse)
    else if ln == "ok-element" then some (RReader.text.map fun s => acc ++ [.okElement s])
    else if ln == "err-element" then some (RReader.text.map fun s => acc ++ [.errElement s])
    else if ln == "noop-element" then some (RReader.text.map fun s => acc ++ [.noopElement s])
    else some (.fail .parse)
  else none

def infoArms : Arms (List InfoElem) := { start := infoStart }

theorem infoLoop_eq (fuel : Nat) (endRaw : String) (acc : List InfoElem) (evs : List Ev) :
    infoLoop fuel endRaw acc evs = readLoop infoArms .ok fuel (.elem endRaw) acc evs := by
  fun_induction infoLoop fuel endRaw acc evs with
  | case24 fuel endRaw acc ev rest herror hstart hcomment hend =>
    symm
    exact readLoop_elem_other herror hstart hcomment hend fun _ _ => rfl
  | _ => simp only [readLoop, Level.skips, Level.ends, infoArms, infoStart, RReader.map_run, RReader.parse_run,
      RReader.text_run, RReader.fail_run, Option.map_some, Option.map_none, *, ↓reduceIte, Bool.false_eq_true]

/-! ### `rpc::Error::read_xml` -/

def errorStart (acc : ErrAcc) (ns : Ns) (ln : String) : Option (RReader ErrAcc) :=
  if ns == .bound BASE && ln == "error-type" && acc.ty.isNone then some (RReader.text.parse
    (fun s => (parseErrType (trim s)).map fun v => { acc with ty := some v }) .parse)
  else if ns == .bound BASE && ln == "error-tag" && acc.tag.isNone then some (RReader.text.parse
    (fun s => (parseErrTag (trim s)).map fun v => { acc with tag := some v }) .parse)
  else if ns == .bound BASE && ln == "error-severity" && acc.severity.isNone then some (RReader.text.parse
    (fun s => (parseSeverity (trim s)).map fun v => { acc with severity := some v }) .parse)
  else if ns == .bound BASE && ln == "error-app-tag" && acc.appTag.isNone then
    some (RReader.text.map fun s => { acc with appTag := some (trim s) })
  else if ns == .bound BASE && ln == "error-path" && acc.path.isNone then
    some (RReader.text.map fun s => { acc with path := some (trim s) })
  else if ns == .bound BASE && ln == "error-message" && acc.message.isNone then
    some (RReader.text.map fun s => { acc with message := some (trim s) })
  else if ns == .bound BASE && ln == "error-info" && acc.info.isNone then
    some ((RReader.elem infoArms .ok (fun _ => nofun) []).map fun i => { acc with info := some i })
  else none

def errorArms : Arms ErrAcc := { start := errorStart }

theorem errorLoop_eq (fuel : Nat) (endRaw : String) (acc : ErrAcc) (evs : List Ev) :
    errorLoop fuel endRaw acc evs = readLoop errorArms ErrAcc.finish fuel (.elem endRaw) acc evs := by
  fun_induction errorLoop fuel endRaw acc evs with
  | case26 fuel endRaw acc ev rest herror hstart hcomment hend =>
    symm
    exact readLoop_elem_other herror hstart hcomment hend fun _ _ => rfl
  | _ => simp only [readLoop, Level.skips, Level.ends, errorArms, errorStart, Tag.is_eq, RReader.map_run,
      RReader.parse_run, RReader.text_run, RReader.elem_run, ← infoLoop_eq, Option.map_some, Option.map_none, *,
      ↓reduceIte, Bool.false_eq_true]

theorem ErrAcc.finish_ne_fuel (acc : ErrAcc) : acc.finish ≠ .error .fuel := by
  unfold ErrAcc.finish; split <;> exact nofun

def errorReader : RReader RpcError := .elem errorArms ErrAcc.finish ErrAcc.finish_ne_fuel {}

theorem readRpcError_eq (fuel : Nat) (t : Tag) (evs : List Ev) : readRpcError fuel t evs = errorReader.run t fuel evs :=
  errorLoop_eq ..

/-! ### the reply bodies: `EmptyReply`, `DataReply<Opaque>`, `BareReply`, load-configuration -/

def emptyArms : Arms (Bool × List RpcError) where
  start st ns ln :=
    if ns == .bound BASE && ln == "rpc-error" && !st.1 then some (errorReader.map fun e => (st.1, st.2 ++ [e]))
    else none
  empty st ns ln := if ns == .bound BASE && ln == "ok" && !st.1 && st.2.isEmpty then some (true, st.2) else none

def emptyFin (st : Bool × List RpcError) : Except Err Body :=
  if st.1 then .ok .ok else if !st.2.isEmpty then .ok (.errs st.2) else .error .missing

theorem emptyLoop_eq (fuel : Nat) (endRaw : String) (th : Bool) (errors : List RpcError) (evs : List Ev) :
    emptyLoop fuel endRaw th errors evs = readLoop emptyArms emptyFin fuel (.elem endRaw) (th, errors) evs := by
  fun_induction emptyLoop fuel endRaw th errors evs with
  | case14 fuel endRaw th errors ev rest herror hempty hstart hcomment hend =>
    symm
    exact readLoop_elem_other herror hstart hcomment hend fun t h => absurd h (hempty t)
  | _ => simp only [readLoop, Level.skips, Level.ends, emptyArms, emptyFin, Tag.is_eq, RReader.map_run,
      ← readRpcError_eq, *, ↓reduceIte, Bool.false_eq_true]

def dataArms : Arms (Option String × List RpcError) where
  start st ns ln :=
    if ns == .bound BASE && ln == "data" && st.1.isNone && st.2.isEmpty then some (RReader.text.map fun s => (some s, st.2))
    else if ns == .bound BASE && ln == "rpc-error" && st.1.isNone then some (errorReader.map fun e => (st.1, st.2 ++ [e]))
    else none

def dataFin (st : Option String × List RpcError) : Except Err Body :=
  match st.1 with
  | some s => .ok (.data s)
  | none => if !st.2.isEmpty then .ok (.errs st.2) else .error .missing

theorem dataLoop_eq (fuel : Nat) (endRaw : String) (th : Option String) (errors : List RpcError) (evs : List Ev) :
    dataLoop fuel endRaw th errors evs = readLoop dataArms dataFin fuel (.elem endRaw) (th, errors) evs := by
  fun_induction dataLoop fuel endRaw th errors evs with
  | case14 fuel endRaw th errors ev rest herror hstart hcomment hend =>
    symm
    exact readLoop_elem_other herror hstart hcomment hend fun _ _ => rfl
  | _ => simp only [readLoop, Level.skips, Level.ends, dataArms, dataFin, Tag.is_eq, RReader.map_run, RReader.text_run,
      ← readRpcError_eq, *, ↓reduceIte, Bool.false_eq_true]

def bareArms : Arms (List RpcError) where
  start errors ns ln :=
    if ns == .bound BASE && ln == "rpc-error" then some (errorReader.map fun e => errors ++ [e]) else none

def bareFin (errors : List RpcError) : Except Err Body :=
  if errors.isEmpty then .ok .ok else .ok (.errs errors)

theorem bareLoop_eq (fuel : Nat) (endRaw : String) (errors : List RpcError) (evs : List Ev) :
    bareLoop fuel endRaw errors evs = readLoop bareArms bareFin fuel (.elem endRaw) errors evs := by
  fun_induction bareLoop fuel endRaw errors evs with
  | case11 fuel endRaw errors ev rest herror hstart hcomment hend =>
    symm
    exact readLoop_elem_other herror hstart hcomment hend fun _ _ => rfl
  | _ => simp only [readLoop, Level.skips, Level.ends, bareArms, bareFin, Tag.is_eq, RReader.map_run,
      ← readRpcError_eq, *, ↓reduceIte, Bool.false_eq_true]

def loadInnerArms (c : RCfg) : Arms LoadSt where
  start st ns ln :=
    if ns == .bound BASE && ln == "rpc-error" && !st.this then
      some (errorReader.map fun e => { st with errors := st.errors ++ [e] })
    else if ns == .bound BASE && ln == "load-error-count" && !st.this then some (RReader.text.parse
      (fun s => (parseUsize (c.tok s)).map fun n => { st with count := some n }) .other)
    else none
  empty st ns ln :=
    if ns == .bound BASE && ln == "ok" && !st.this && (!c.loadOkGuard || !hasErrorSeverity st.errors) then
      some { st with this := true }
    else none

theorem loadInner_eq (c : RCfg) (fuel : Nat) (endRaw : String) (st : LoadSt) (evs : List Ev) :
    loadInner c fuel endRaw st evs = readLoop (loadInnerArms c) .ok fuel (.elem endRaw) st evs := by
  fun_induction loadInner c fuel endRaw st evs with
  | case15 fuel endRaw st ev rest herror hempty hstart hcomment hend =>
    symm
    exact readLoop_elem_other herror hstart hcomment hend fun t h => absurd h (hempty t)
  | _ => simp only [readLoop, Level.skips, Level.ends, loadInnerArms, Tag.is_eq, RReader.map_run, RReader.parse_run,
      RReader.text_run, ← readRpcError_eq, Option.map_some, Option.map_none, *, ↓reduceIte, Bool.false_eq_true]

def loadOuterArms (c : RCfg) : Arms LoadSt where
  start st ns ln :=
    if ns == .bound BASE && ln == "load-configuration-results" && !st.this then
      some (.elem (loadInnerArms c) .ok (fun _ => nofun) st)
    else none

def loadFin (st : LoadSt) : Except Err Body :=
  if st.this then .ok .ok
  else match st.count with
    | some n => if st.errors.length == n then .ok (.errs st.errors) else .error .missing
    | none => .error .missing

theorem loadOuter_eq (c : RCfg) (fuel : Nat) (endRaw : String) (st : LoadSt) (evs : List Ev) :
    loadOuter c fuel endRaw st evs = readLoop (loadOuterArms c) loadFin fuel (.elem endRaw) st evs := by
  fun_induction loadOuter c fuel endRaw st evs with
  | case13 fuel endRaw st ev rest herror hstart hcomment hend =>
    symm
    exact readLoop_elem_other herror hstart hcomment hend fun _ _ => rfl
  | _ => simp only [readLoop, Level.skips, Level.ends, loadOuterArms, loadFin, Tag.is_eq, RReader.elem_run,
      ← loadInner_eq, *, ↓reduceIte, Bool.false_eq_true]

theorem emptyFin_ne_fuel (st) : emptyFin st ≠ .error .fuel := by
  unfold emptyFin
  split
  · exact nofun
  · split <;> exact nofun

theorem dataFin_ne_fuel (st) : dataFin st ≠ .error .fuel := by
  unfold dataFin
  split
  · exact nofun
  · split <;> exact nofun

theorem bareFin_ne_fuel (st) : bareFin st ≠ .error .fuel := by
  unfold bareFin; split <;> exact nofun

theorem loadFin_ne_fuel (st) : loadFin st ≠ .error .fuel := by
  unfold loadFin
  split
  · exact nofun
  · split
    · split <;> exact nofun
    · exact nofun

def bodyReader (c : RCfg) : ReplyKind → RReader Body
  | .empty => .elem emptyArms emptyFin emptyFin_ne_fuel (false, [])
  | .data => .elem dataArms dataFin dataFin_ne_fuel (none, [])
  | .bare => .elem bareArms bareFin bareFin_ne_fuel []
  | .load => .elem (loadOuterArms c) loadFin loadFin_ne_fuel {}

theorem readBody_eq (c : RCfg) (k : ReplyKind) (fuel : Nat) (t : Tag) (evs : List Ev) :
    readBody c k fuel t evs = (bodyReader c k).run t fuel evs := by
  cases k <;> simp only [readBody, bodyReader, RReader.elem_run, emptyLoop_eq, dataLoop_eq, bareLoop_eq, loadOuter_eq]

/-! ### `Reply<O>::read_xml`, `ServerMsg::from_xml`, `PartialReply::read_xml` -/

/-! `X_ne_fuel : X ≠ .error .fuel` is the form `readLoop_good` and the readers of `ElemLoop` ask for; `X_err :
X = .error e → e ≠ .fuel` says the same in the form that survives when the error is handed on at another
value type (`getAttr` inside `messageIdOf`), which `≠` between results of different types cannot. -/

theorem getAttr_err (name : String) (l : List AttrItem) (e : Err) (h : getAttr name l = .error e) : e ≠ .fuel := by
  induction l with
  | nil => cases h
  | cons a l ih =>
    cases a with
    | bad => cases h; exact nofun
    | ok a =>
      rw [getAttr] at h
      split at h
      · cases h
      · exact ih h

theorem parseMessageId_err (a : Attr) (e : Err) (h : parseMessageId a = .error e) : e ≠ .fuel := by
  unfold parseMessageId at h
  split at h
  · cases h; exact nofun
  · split at h
    · cases h
    · cases h; exact nofun

def messageIdOf (attrs : List AttrItem) : Except Err Nat :=
  match getAttr "message-id" attrs with
  | .error e => .error e
  | .ok none => .error .missing
  | .ok (some a) => parseMessageId a

theorem messageIdOf_ne_fuel (attrs : List AttrItem) : messageIdOf attrs ≠ .error .fuel := by
  unfold messageIdOf
  split
  · exact fun h => getAttr_err _ _ _ ‹_› (Except.error.inj h)
  · exact nofun
  · exact fun h => parseMessageId_err _ _ h rfl

def replyElemReader (c : RCfg) (k : ReplyKind) : RReader (Nat × Body) :=
  .onAttrs messageIdOf messageIdOf_ne_fuel fun id => (bodyReader c k).map fun b => (id, b)

theorem readReplyElem_eq (c : RCfg) (k : ReplyKind) (fuel : Nat) (t : Tag) (evs : List Ev) :
    readReplyElem c k fuel t evs = (replyElemReader c k).run t fuel evs := by
  simp only [readReplyElem, replyElemReader, RReader.onAttrs_run, messageIdOf, RReader.map_run, readBody_eq]
  cases getAttr "message-id" t.attrs with
  | error e => rfl
  | ok oa =>
    cases oa with
    | none => rfl
    | some a =>
      dsimp only
      cases parseMessageId a with
      | error e => rfl
      | ok id => cases (bodyReader c k).run t fuel evs <;> rfl

def optFin {β : Type} : Option β → Except Err β
  | some v => .ok v
  | none => .error .missing

theorem optFin_ne_fuel {β : Type} (st : Option β) : optFin st ≠ .error .fuel := by
  cases st <;> exact nofun

def replyDocArms (c : RCfg) (k : ReplyKind) : Arms (Option (Nat × Body)) where
  start this ns ln :=
    if ns == .bound BASE && ln == "rpc-reply" && !(c.oneRoot && this.isSome) then some ((replyElemReader c k).map some)
    else none

theorem fromXmlReply_eq (c : RCfg) (k : ReplyKind) (fuel : Nat) (this : Option (Nat × Body)) (evs : List Ev) :
    fromXmlReply c k fuel this evs = readDoc (replyDocArms c k) optFin c.declArm fuel this evs := by
  unfold readDoc
  fun_induction fromXmlReply c k fuel this evs with
  | case15 fuel this ev rest herror hstart hcomment hdecl heof htext =>
    symm
    exact readDoc_other herror hstart hcomment hdecl heof htext fun _ => rfl
  | _ => simp only [readLoop, Level.skips, Level.ends, replyDocArms, optFin, valueOf, Tag.is_eq, RReader.map_run,
      ← readReplyElem_eq, *, ↓reduceIte, Bool.false_eq_true]

/-- phase 1 reads only the message-id, and goes on without one -/
def partialIdOf (attrs : List AttrItem) : Except Err (Option Nat) :=
  match getAttr "message-id" attrs with
  | .error e => .error e
  | .ok none => .ok none
  | .ok (some a) => (match parseMessageId a with | .error e => .error e | .ok id => .ok (some id))

theorem partialIdOf_ne_fuel (attrs : List AttrItem) : partialIdOf attrs ≠ .error .fuel := by
  unfold partialIdOf
  split
  · exact fun h => getAttr_err _ _ _ ‹_› (Except.error.inj h)
  · exact nofun
  · split
    · exact fun h => parseMessageId_err _ _ ‹_› (Except.error.inj h)
    · exact nofun

def partialArms : Arms (Option Nat) where
  start _ ns ln :=
    if ns == .bound BASE && ln == "rpc-reply" then
      some (.onAttrs partialIdOf partialIdOf_ne_fuel fun mid => RReader.skipLenient.map fun _ => mid)
    else none

theorem readPartial_eq (c : RCfg) (fuel : Nat) (mid : Option Nat) (evs : List Ev) :
    readPartial c fuel mid evs = readDoc partialArms optFin c.declArm fuel mid evs := by
  unfold readDoc
  fun_induction readPartial c fuel mid evs with
  | case17 fuel mid ev rest herror hstart hcomment hdecl heof htext =>
    symm
    exact readDoc_other herror hstart hcomment hdecl heof htext fun _ => rfl
  | _ => simp only [readLoop, Level.skips, Level.ends, partialArms, optFin, valueOf, Tag.is_eq, RReader.map_run,
      RReader.onAttrs_run, partialIdOf, RReader.skipLenient_run, *, ↓reduceIte, Bool.false_eq_true]

/-! ### `Capabilities::read_xml`, `ServerHello::read_xml`, `ServerMsg::from_xml` -/

theorem parseCapability_err (o : UriOracle) (s : String) (e : Err) (h : parseCapability o s = .error e) :
    e ≠ .fuel := by
  unfold parseCapability at h
  split at h
  · cases h; exact nofun
  · split at h
    · cases h; exact nofun
    · cases h

def capsArms (c : RCfg) (o : UriOracle) : Arms (List Capability) where
  start acc ns ln :=
    if ns == .bound BASE && ln == "capability" then some (RReader.text.andThen
      (fun s => match parseCapability o (c.tok s) with | .ok v => .ok (acc ++ [v]) | .error e => .error e)
      (fun s h => by
        cases hp : parseCapability o (c.tok s) with
        | ok v => rw [hp] at h; cases h
        | error e => rw [hp] at h; exact parseCapability_err _ _ _ hp (Except.error.inj h)))
    else none

theorem capsLoop_eq (c : RCfg) (o : UriOracle) (fuel : Nat) (endRaw : String) (acc : List Capability) (evs : List Ev) :
    capsLoop c o fuel endRaw acc evs = readLoop (capsArms c o) .ok fuel (.elem endRaw c.capsComment) acc evs := by
  fun_induction capsLoop c o fuel endRaw acc evs with
  | case12 fuel endRaw acc ev rest herror hstart hcomment hend =>
    symm
    exact readLoop_elem_other herror hstart hcomment hend fun _ _ => rfl
  | _ => simp only [readLoop, Level.skips, Level.ends, capsArms, Tag.is_eq, RReader.andThen_run, RReader.text_run,
      *, ↓reduceIte, Bool.false_eq_true]

def helloArms (c : RCfg) (o : UriOracle) : Arms (Option (List Capability) × Option Nat) where
  start st ns ln :=
    if ns == .bound BASE && ln == "capabilities" && st.1.isNone then
      some ((RReader.elem (capsArms c o) .ok (fun _ => nofun) [] c.capsComment).map fun v => (some v, st.2))
    else if ns == .bound BASE && ln == "session-id" && st.2.isNone then some (RReader.text.parse
      (fun s => (parseSessionId (c.tok s)).map fun n => (st.1, some n)) .parse)
    else none

def helloFin : Option (List Capability) × Option Nat → Except Err Hello
  | (some c, some n) => .ok { caps := c, sid := n }
  | _ => .error .missing

theorem helloFin_ne_fuel (st) : helloFin st ≠ .error .fuel := by
  unfold helloFin; split <;> exact nofun

theorem helloLoop_eq (c : RCfg) (o : UriOracle) (fuel : Nat) (endRaw : String) (caps : Option (List Capability))
    (sid : Option Nat) (evs : List Ev) :
    helloLoop c o fuel endRaw caps sid evs = readLoop (helloArms c o) helloFin fuel (.elem endRaw) (caps, sid) evs := by
  fun_induction helloLoop c o fuel endRaw caps sid evs with
  | case14 fuel endRaw caps sid ev rest herror hstart hcomment hend =>
    symm
    exact readLoop_elem_other herror hstart hcomment hend fun _ _ => rfl
  | case12 fuel endRaw caps sid rest raw h hx =>  -- the end tag: the model matches on `caps, sid` at once
    cases caps <;> cases sid <;> simp_all [readLoop, Level.skips, Level.ends, helloFin]
  | _ => simp only [readLoop, Level.skips, Level.ends, helloArms, helloFin, Tag.is_eq, RReader.parse_run, RReader.text_run,
      RReader.map_run, RReader.elem_run, ← capsLoop_eq, Option.map_some, Option.map_none, *, ↓reduceIte,
      Bool.false_eq_true]

def helloDocArms (c : RCfg) (o : UriOracle) : Arms (Option Hello) where
  start this ns ln :=
    if ns == .bound BASE && ln == "hello" && !(c.oneRoot && this.isSome) then
      some ((RReader.elem (helloArms c o) helloFin helloFin_ne_fuel (none, none)).map some)
    else none

theorem fromXmlHello_eq (c : RCfg) (o : UriOracle) (fuel : Nat) (this : Option Hello) (evs : List Ev) :
    fromXmlHello c o fuel this evs = readDoc (helloDocArms c o) optFin c.declArm fuel this evs := by
  unfold readDoc
  fun_induction fromXmlHello c o fuel this evs with
  | case15 fuel this ev rest herror hstart hcomment hdecl heof htext =>
    symm
    exact readDoc_other herror hstart hcomment hdecl heof htext fun _ => rfl
  | _ => simp only [readLoop, Level.skips, Level.ends, helloDocArms, optFin, valueOf, Tag.is_eq, RReader.map_run,
      RReader.elem_run, ← helloLoop_eq, *, ↓reduceIte, Bool.false_eq_true]

/-! ### C14: bounded consumption, no loop runs out of fuel -/

theorem errorLoop_good (fuel : Nat) (endRaw : String) (acc : ErrAcc) (evs : List Ev) :
    Good evs fuel (errorLoop fuel endRaw acc evs) :=
  errorLoop_eq .. ▸ readLoop_good ErrAcc.finish_ne_fuel ..

theorem readBody_good (c : RCfg) (k : ReplyKind) (fuel : Nat) (t : Tag) (evs : List Ev) :
    Good evs fuel (readBody c k fuel t evs) := by
  rw [readBody_eq]
  cases k
  · exact readLoop_good emptyFin_ne_fuel ..
  · exact readLoop_good dataFin_ne_fuel ..
  · exact readLoop_good bareFin_ne_fuel ..
  · exact readLoop_good loadFin_ne_fuel ..

theorem helloLoop_good (c : RCfg) (o : UriOracle) (fuel : Nat) (endRaw : String) (caps : Option (List Capability))
    (sid : Option Nat) (evs : List Ev) : Good evs fuel (helloLoop c o fuel endRaw caps sid evs) :=
  helloLoop_eq .. ▸ readLoop_good helloFin_ne_fuel ..

theorem fromXmlHello_total (c : RCfg) (o : UriOracle) (fuel : Nat) (this : Option Hello) (evs : List Ev)
    (hf : evs.length < fuel) : fromXmlHello c o fuel this evs ≠ .error .fuel :=
  fromXmlHello_eq .. ▸ readDoc_total optFin_ne_fuel _ _ _ hf

theorem fromXmlReply_total (c : RCfg) (k : ReplyKind) (fuel : Nat) (this : Option (Nat × Body)) (evs : List Ev)
    (hf : evs.length < fuel) : fromXmlReply c k fuel this evs ≠ .error .fuel :=
  fromXmlReply_eq .. ▸ readDoc_total optFin_ne_fuel _ _ _ hf

theorem readPartial_total (c : RCfg) (fuel : Nat) (mid : Option Nat) (evs : List Ev)
    (hf : evs.length < fuel) : readPartial c fuel mid evs ≠ .error .fuel :=
  readPartial_eq .. ▸ readDoc_total optFin_ne_fuel _ _ _ hf

/-! ### C14: a reply comes only out of an `<rpc-reply>` start tag -/

theorem fromXmlReply_needs_root (c : RCfg) (k : ReplyKind) (fuel : Nat) (evs : List Ev) (v : Nat × Body)
    (h : fromXmlReply c k fuel none evs = .ok v) : ∃ t, Ev.start t ∈ evs ∧ t.is BASE "rpc-reply" = true := by
  induction evs generalizing fuel with
  | nil => cases fuel <;> cases h
  | cons ev rest ih =>
    cases fuel with
    | zero => cases h
    | succ n =>
      have later : fromXmlReply c k n none rest = .ok v → ∃ t, Ev.start t ∈ ev :: rest ∧ t.is BASE "rpc-reply" = true :=
        fun h' => (ih n h').imp fun t ht => ⟨List.mem_cons_of_mem _ ht.1, ht.2⟩
      cases ev with
      | start t =>
        by_cases ht : t.is BASE "rpc-reply" = true
        · exact ⟨t, List.mem_cons_self, ht⟩
        · simp [fromXmlReply, ht] at h
      | comment => exact later h
      | decl =>
        rw [fromXmlReply] at h
        split at h
        · exact later h
        · cases h
      | text s => rw [fromXmlReply] at h; split at h <;> cases h
      | _ => cases h

/-! ### C13: whole messages under renaming of raw names and under `Misc` around the root element -/

theorem readMessage_rename {f : String → String} (hf : Inj f) (c : RCfg) (k : ReplyKind) (evs : List Ev) :
    readMessage c k (renameEvs f evs) = readMessage c k evs := by
  simp only [readMessage, phase2, readPartial_eq, fromXmlReply_eq, renameEvs_length, readDoc_rename hf]

theorem establish_rename {f : String → String} (hf : Inj f) (c : RCfg) (adv : Bool) (o : UriOracle) (evs : List Ev) :
    establish c adv o (renameEvs f evs) = establish c adv o evs := by
  simp only [establish, fromXmlHello_eq, renameEvs_length, readDoc_rename hf]

theorem readMessage_trail (c : RCfg) (k : ReplyKind) (n : Nat) (evs : List Ev) :
    readMessage c k (trailMisc n evs) = readMessage c k evs := by
  simp only [readMessage, phase2, readPartial_eq, fromXmlReply_eq, readDoc_trail optFin_ne_fuel]

theorem establish_trail (c : RCfg) (adv : Bool) (o : UriOracle) (n : Nat) (evs : List Ev) :
    establish c adv o (trailMisc n evs) = establish c adv o evs := by
  simp only [establish, fromXmlHello_eq, readDoc_trail optFin_ne_fuel]

theorem readMessage_lead (c : RCfg) (k : ReplyKind) (n : Nat) (evs : List Ev) :
    readMessage c k (comments n ++ evs) = readMessage c k evs := by
  simp only [readMessage, phase2, readPartial_eq, fromXmlReply_eq, readDoc_lead]

theorem establish_lead (c : RCfg) (adv : Bool) (o : UriOracle) (n : Nat) (evs : List Ev) :
    establish c adv o (comments n ++ evs) = establish c adv o evs := by
  simp only [establish, fromXmlHello_eq, readDoc_lead]

theorem replyDocMisc_eq (pre post : Nat) (raw idAttr : String) (extra : List AttrItem) (cs : List Top) :
    replyDocMisc pre post raw idAttr extra cs = comments pre ++ trailMisc post (replyDoc raw idAttr extra cs) := by
  rw [replyDoc, List.append_cons, trailMisc_append_eof]
  simp [replyDocMisc, comments]

theorem helloDocMisc_eq (pre post : Nat) (raw : String) (attrs : List AttrItem) (cs : List HChild) :
    helloDocMisc pre post raw attrs cs = comments pre ++ trailMisc post (helloDoc raw attrs cs) := by
  rw [helloDoc, List.append_cons, trailMisc_append_eof]
  simp [helloDocMisc, comments]

end Xml
