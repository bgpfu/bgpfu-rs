import Bgpfu.Model.LogTable
/-! Non-interference of `logged` for *every* table without unsafe formatter,
and the converse (a table that logs the same for the two secrets `secretsA`, `secretsB` has no unsafe field).  Both
come from one characterisation (`logged_eq_iff`): two secrets give the same log iff every field of every
entry renders the same; and from what one field does (`renderField_safe`, `safe_of_renderField_eq`). -/
namespace LogTable

theorem render_safe (f : Formatter) (h : f.safe = true) (x y : List Char) : render f x = render f y := by
  cases f <;> first | rfl | exact absurd h (by decide)

theorem render_unsafe (f : Formatter) (h : f.safe = false) (x : List Char) : render f x = x := by
  cases f <;> first | rfl | exact absurd h (by decide)

theorem logged_eq_iff (t : Table) (s s' : Secrets) :
    logged t s = logged t s' ↔ ∀ e ∈ t, ∀ f ∈ e.fields, renderField s f = renderField s' f := by
  simp only [logged, renderEntry, List.map_inj_left, Line.mk.injEq, true_and]

theorem allSafe_iff (t : Table) : allSafe t = true ↔ ∀ e ∈ t, ∀ f ∈ e.fields, f.fmt.safe = true := by
  simp only [allSafe, Entry.safe, List.all_eq_true]

theorem renderField_safe (f : Field) (h : f.fmt.safe = true) (s s' : Secrets) :
    renderField s f = renderField s' f :=
  congrArg (Prod.mk f.name) (render_safe f.fmt h _ _)

/-- `secretsA`, `secretsB`: the two secrets used to witness a leak -/
def secretsA : Secrets := ⟨[], []⟩
def secretsB : Secrets := ⟨['x'], ['x']⟩

theorem pick_secretsA (c : Src) : pick secretsA c = [] := by cases c <;> rfl
theorem pick_secretsB_ne (c : Src) : pick secretsB c ≠ [] := by cases c <;> simp [pick, secretsB]

theorem safe_of_renderField_eq (f : Field) (h : renderField secretsA f = renderField secretsB f) :
    f.fmt.safe = true := by
  cases hs : f.fmt.safe with
  | true => rfl
  | false =>
    have h2 : render f.fmt (pick secretsA f.src) = render f.fmt (pick secretsB f.src) := congrArg Prod.snd h
    rw [render_unsafe _ hs, render_unsafe _ hs, pick_secretsA] at h2
    exact absurd h2.symm (pick_secretsB_ne _)

theorem logged_indep_of_allSafe (t : Table) (h : allSafe t = true) (s₁ s₂ : Secrets) :
    logged t s₁ = logged t s₂ :=
  (logged_eq_iff t s₁ s₂).2 fun e he f hf => renderField_safe f ((allSafe_iff t).1 h e he f hf) s₁ s₂

theorem allSafe_of_logged_eq (t : Table) (h : logged t secretsA = logged t secretsB) : allSafe t = true :=
  (allSafe_iff t).2 fun e he f hf => safe_of_renderField_eq f ((logged_eq_iff t secretsA secretsB).1 h e he f hf)

theorem allSafe_filter (t : Table) (p : Entry → Bool) (h : allSafe t = true) : allSafe (t.filter p) = true := by
  simp only [allSafe, List.all_eq_true] at h ⊢
  intro e he
  exact h e (List.mem_filter.mp he).1

end LogTable
