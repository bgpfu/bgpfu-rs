import Bgpfu.Model.BuildSpec
/-! C09. The per-parameter entries of the RFC table are what the builder methods check (`allOk_*Reqs`); safety is an
invariant of the fold over the calls, builder by builder; for the converse every permitted call succeeds and a
complete sequence of calls has set what `finish` asks for. An invariant whose step lemma stands alone has a name
(`X.Inv`, `X.step_inv`: edit-config, copy-config, delete-config, commit); the small builders (get, get-config,
validate) state theirs inside the safety proof; lock and unlock are one builder with two `finish`, hence
`Lock.fold_inv`. -/
namespace Builders
open Caps Rfc

def allOk (caps : List Capability) (l : List Labelled) : Bool := l.all fun lq => lq.2.check caps

theorem allOk_append (caps) (a b : List Labelled) :
    allOk caps (a ++ b) = (allOk caps a && allOk caps b) := by
  simp [allOk]

theorem allOk_nil (caps) : allOk caps [] = true := rfl

theorem allOk_cons (caps) (lq : Labelled) (l) : allOk caps (lq :: l) = (lq.2.check caps && allOk caps l) := rfl

theorem allOk_singleton (caps) (lq : Labelled) : allOk caps [lq] = lq.2.check caps := Bool.and_true _

theorem allOk_unlabel (caps) (l : List Labelled) :
    allOk caps l = true ↔ ∀ q ∈ unlabel l, q.check caps = true := by
  simp only [allOk, unlabel, List.all_eq_true, List.mem_map]
  exact ⟨fun h q ⟨lq, hm, e⟩ => e ▸ h lq hm, fun h lq hm => h lq.2 ⟨lq, hm, rfl⟩⟩

theorem allOk_iff (caps) (r : Request) :
    allOk caps (requiresL r) = true ↔ ∀ q ∈ requires r, q.check caps = true :=
  allOk_unlabel caps (requiresL r)

theorem foldCalls_inv {σ κ : Type} {step : σ → κ → Except ErrKind σ} (P : σ → Prop)
    (hstep : ∀ s c s', step s c = .ok s' → P s → P s') {cs : List κ} {s s' : σ}
    (h : foldCalls step s cs = .ok s') (hp : P s) : P s' := by
  induction cs generalizing s with
  | nil => cases h; exact hp
  | cons c cs ih =>
    rw [foldCalls] at h
    split at h
    · next s1 h1 => exact ih h (hstep s c s1 h1 hp)
    · cases h

/-- `f s`: a mandatory field of the builder is set in `s`; `Q c`: the call `c` sets it. If every call succeeds and
sets the field exactly when `Q` says so, the fold succeeds and the field is set at the end once some call set it. -/
theorem foldCalls_track {σ κ : Type} (step : σ → κ → Except ErrKind σ) (Q : κ → Bool) (f : σ → Bool) :
    ∀ (cs : List κ), (∀ c ∈ cs, ∀ s, ∃ s', step s c = .ok s' ∧ f s' = (Q c || f s)) →
      ∀ s, ∃ s', foldCalls step s cs = .ok s' ∧ ((cs.any Q || f s) = true → f s' = true) := by
  intro cs
  induction cs with
  | nil => intro _ s; exact ⟨s, rfl, id⟩
  | cons c cs ih =>
    intro h s
    obtain ⟨s1, h1, f1⟩ := h c (by simp) s
    obtain ⟨s2, h2, f2⟩ := ih (fun c' hc' => h c' (by simp [hc'])) s1
    refine ⟨s2, by rw [foldCalls, h1]; exact h2, fun hq => f2 ?_⟩
    rwa [f1, Bool.or_left_comm, ← Bool.or_assoc, ← List.any_cons]

theorem foldCalls_succeeds {σ κ : Type} (step : σ → κ → Except ErrKind σ) (cs : List κ)
    (h : ∀ c ∈ cs, ∀ s, ∃ s', step s c = .ok s') (s) : ∃ s', foldCalls step s cs = .ok s' :=
  (foldCalls_track step (fun _ => false) (fun _ => false) cs (fun c hc s => (h c hc s).imp fun _ h => ⟨h, rfl⟩) s).imp
    fun _ h => h.1

theorem foldCalls_append {σ κ : Type} (step : σ → κ → Except ErrKind σ) (s : σ) (a b : List κ) :
    foldCalls step s (a ++ b) = (foldCalls step s a).bind (foldCalls step · b) := by
  induction a generalizing s with
  | nil => rfl
  | cons c a ih => rw [List.cons_append, foldCalls, foldCalls]; cases step s c <;> simp [ih, Except.bind]

/-! The code's requirement for a parameter is the RFC table's entry for it: each entry of the per-parameter tables
of `Rfc.requiresL` is at most one requirement, and it is, literally, what the code checks for that parameter
(`Requirements.one c` against `.cap c`, `.any cs` against `.anyOf cs`), so every case below holds by unfolding.
The two exceptions are `allOk_editTargetReqs` and `allOk_deleteTargetReqs`. -/

theorem allOk_getConfigSourceReqs (caps) (d : Datastore) :
    allOk caps (getConfigSourceReqs (.ds d)) = (sourceReq d).check caps := by
  cases d <;> first | rfl | exact allOk_singleton ..

theorem allOk_sourceReqs (op caps) (d : Datastore) : allOk caps (sourceReqs op (.ds d)) = (sourceReq d).check caps := by
  cases d <;> first | rfl | exact allOk_singleton ..

theorem allOk_copyTargetReqs (caps) (d : Datastore) : allOk caps (copyTargetReqs (.ds d)) = (targetReq d).check caps := by
  cases d <;> first | rfl | exact allOk_singleton ..

theorem allOk_lockTargetReqs (op caps) (d : Datastore) :
    allOk caps (lockTargetReqs op (.ds d)) = (lockTargetReq d).check caps := by
  cases d <;> first | rfl | exact allOk_singleton ..

theorem allOk_filterReqs (op caps) (x : FilterType) : allOk caps (filterReqs op (some x)) = (filterReq x).check caps := by
  cases x <;> first | rfl | exact allOk_singleton ..

theorem allOk_errorOptReqs (caps) (e : ErrorOpt) :
    allOk caps (errorOptReqs (some e)) = (EditConfig.errorOptReq e).check caps := by
  cases e <;> first | rfl | exact allOk_singleton ..

theorem allOk_testOptReqs (caps) (t : TestOpt) : allOk caps (testOptReqs (some t)) = (EditConfig.testOptReq t).check caps := by
  cases t <;> first | rfl | exact allOk_singleton ..

/-- the table is stricter than `try_as_target`: no capability makes `<startup/>` a target of edit-config (deviation
E1: the pinned snapshot accepts it whenever `:startup` is advertised) -/
theorem allOk_editTargetReqs (caps) (d : Datastore) :
    allOk caps (editTargetReqs (.ds d)) = (d != .startup && (targetReq d).check caps) := by
  cases d <;> first | rfl | exact allOk_singleton ..

/-- the table is stricter than `try_as_target`: only `<startup/>` is a datastore target of delete-config (deviation
E2: the pinned snapshot accepts `<candidate/>` whenever `:candidate` is advertised; `<running/>` is refused by the
code too) -/
theorem allOk_deleteTargetReqs (caps) (d : Datastore) :
    allOk caps (deleteTargetReqs (.ds d)) = (d == .startup && (targetReq d).check caps) := by
  cases d <;> first | rfl | exact allOk_singleton ..

/-- every check of the builders has this shape (`Datastore::try_as_*`, `try_use`, …) -/
theorem ite_ok {α : Type} {c : Prop} [Decidable c] {a b : α} {e : ErrKind}
    (h : (if c then Except.ok a else .error e) = .ok b) : b = a ∧ c := by
  split at h <;> cases h; exact ⟨rfl, ‹c›⟩

/-- whatever the operation: the entries of `get` and `get-config` differ in their label only -/
theorem filterOptTryUse_ok_iff (op) {ctx f f'} :
    filterOptTryUse ctx f = .ok f' ↔ f' = f ∧ allOk ctx.caps (filterReqs op f) = true := by
  cases f with
  | none => simp [filterOptTryUse, eq_comm, allOk_nil, filterReqs]
  | some x =>
    rw [allOk_filterReqs]
    by_cases hc : (filterReq x).check ctx.caps = true <;> simp [filterOptTryUse, filterTryUse, hc, eq_comm]

theorem urlTryNew_ok_iff {ctx u s} :
    urlTryNew ctx u = .ok s ↔ u = some s ∧ (Requirement.urlScheme s).check ctx.caps = true := by
  cases u with
  | none => simp [urlTryNew]
  | some t =>
    by_cases hc : urlSchemeAdvertised ctx.caps t = true
    · simp only [urlTryNew, hc, if_true, Except.ok.injEq, Option.some.injEq]
      exact ⟨fun h => h ▸ ⟨rfl, hc⟩, fun h => h.1⟩
    · simp only [urlTryNew, hc, Option.some.injEq]
      exact ⟨nofun, fun h => absurd (h.1 ▸ h.2) hc⟩

theorem require_ok {α} {v : Option α} {x : α} (h : require v = .ok x) : v = some x := by
  cases v <;> simp_all [require]

theorem build_ok_iff (cfg ctx b r) :
    build cfg ctx b = .ok r ↔
      (requiredCapabilities b).check ctx.caps = true ∧ ∃ o, runBuilder cfg ctx b = .ok o ∧ r = render o := by
  unfold build operationNew
  by_cases hc : (requiredCapabilities b).check ctx.caps = true
  · simp only [hc, if_true, true_and]
    cases hr : runBuilder cfg ctx b with
    | ok o => simp [eq_comm]
    | error e => simp
  · simp [hc]

theorem thenFinish_ok_iff {σ : Type} {r : Except ErrKind σ} {finish : σ → Except ErrKind Built} {o} :
    thenFinish r finish = .ok o ↔ ∃ st, r = .ok st ∧ finish st = .ok o := by
  cases r <;> simp [thenFinish]

/-- `hb` is `rfl` for every arm of `runBuilder` with calls -/
theorem build_run {cfg ctx b r} {σ κ : Type} {step : σ → κ → Except ErrKind σ} {init : σ} {cs : List κ}
    {finish : σ → Except ErrKind Built} (hb : runBuilder cfg ctx b = thenFinish (foldCalls step init cs) finish) :
    build cfg ctx b = .ok r ↔ (requiredCapabilities b).check ctx.caps = true ∧
      ∃ st o, foldCalls step init cs = .ok st ∧ finish st = .ok o ∧ r = render o := by
  rw [build_ok_iff, hb]
  simp only [thenFinish_ok_iff]
  exact and_congr_right fun _ =>
    ⟨fun ⟨o, ⟨st, h1, h2⟩, h3⟩ => ⟨st, o, h1, h2, h3⟩, fun ⟨st, o, h1, h2, h3⟩ => ⟨o, ⟨st, h1, h2⟩, h3⟩⟩

theorem get_safe {cfg ctx cs r} (h : build cfg ctx (.get cs) = .ok r)
    (hx : cfg.getFilterCheck = false → r ≠ .get (some .xpath)) :
    allOk ctx.caps (requiresL r) = true := by
  obtain ⟨_, st, o, hst, hf, rfl⟩ := (build_run rfl).1 h
  cases hf
  by_cases hflag : cfg.getFilterCheck = true
  · refine foldCalls_inv (fun st => allOk ctx.caps (filterReqs "get" st.filter) = true) ?_ hst rfl
    intro s c s' hs _
    cases c with
    | filter f =>
      simp only [Get.step, Get.filter, hflag, if_true] at hs
      split at hs
      · next f' hf' => cases hs; obtain ⟨rfl, h⟩ := (filterOptTryUse_ok_iff "get").1 hf'; exact h
      · cases hs
  · have := hx (by simpa using hflag)
    cases hfl : st.filter with
    | none => rfl
    | some x =>
      cases x
      · rfl
      · exact absurd (congrArg Request.get hfl) this

theorem getConfig_safe {cfg ctx cs r} (h : build cfg ctx (.getConfig cs) = .ok r) :
    allOk ctx.caps (requiresL r) = true := by
  obtain ⟨_, st, o, hst, hf, rfl⟩ := (build_run rfl).1 h
  have inv := foldCalls_inv
    (fun st => (∀ d, st.source = some d → (sourceReq d).check ctx.caps = true)
      ∧ allOk ctx.caps (filterReqs "get-config" st.filter) = true)
    (by
      intro s c s' hs hp
      cases c with
      | source d =>
        simp only [GetConfig.step, GetConfig.source] at hs
        split at hs
        · next d' hd =>
          obtain ⟨rfl, hc⟩ := ite_ok hd
          cases hs; exact ⟨fun _ h => by cases h; exact hc, hp.2⟩
        · cases hs
      | filter f =>
        simp only [GetConfig.step, GetConfig.filter] at hs
        split at hs
        · next f' hf' =>
          obtain ⟨rfl, hfo⟩ := (filterOptTryUse_ok_iff "get-config").1 hf'
          cases hs; exact ⟨hp.1, hfo⟩
        · cases hs)
    hst ⟨nofun, rfl⟩
  simp only [GetConfig.finish] at hf
  split at hf
  · next s hs =>
    cases hf
    unfold render requiresL
    simp only [allOk_append, allOk_getConfigSourceReqs, inv.1 s (require_ok hs), inv.2, Bool.and_self]
  · cases hf

/-- the options in the form `render` writes them: a default is elided (`none`) and then asks for nothing
(edit_config.rs:45-60) -/
def EditConfig.Inv (cfg : Cfg) (caps : List Capability) (st : EditConfig.State) : Prop :=
  (∀ d, st.target = some d → (targetReq d).check caps = true ∧ (cfg.editStartupCheck = true → d ≠ .startup))
  ∧ (∀ s, st.source = some (.url s) → (Requirement.urlScheme s).check caps = true)
  ∧ allOk caps (errorOptReqs (if st.errorOpt = .stopOnError then none else some st.errorOpt)) = true
  ∧ allOk caps (testOptReqs (if st.testOpt = .testThenSet then none else some st.testOpt)) = true

theorem EditConfig.step_inv (cfg ctx) (s : EditConfig.State) (c : EditConfig.Call) (s' : EditConfig.State)
    (hs : EditConfig.step cfg ctx s c = .ok s') (hp : EditConfig.Inv cfg ctx.caps s) :
    EditConfig.Inv cfg ctx.caps s' := by
  obtain ⟨h1, h2, h3, h4⟩ := hp
  cases c with
  | target d =>
    simp only [EditConfig.step, EditConfig.target] at hs
    split at hs
    · cases hs
    · next hne =>
      split at hs
      · next d' hd =>
        obtain ⟨rfl, hc⟩ := ite_ok hd
        cases hs
        exact ⟨fun _ h => by cases h; exact ⟨hc, fun hflag hst => hne ⟨hflag, hst⟩⟩, h2, h3, h4⟩
      · cases hs
  | config => cases hs; exact ⟨h1, nofun, h3, h4⟩
  | url u =>
    simp only [EditConfig.step, EditConfig.url] at hs
    split at hs
    · next sch hu => cases hs; exact ⟨h1, fun _ h => by cases h; exact (urlTryNew_ok_iff.1 hu).2, h3, h4⟩
    · cases hs
  | defaultOperation o => cases hs; exact ⟨h1, h2, h3, h4⟩
  | errorOption e =>
    obtain ⟨rfl, hc⟩ := ite_ok hs
    refine ⟨h1, h2, ?_, h4⟩
    show allOk _ (errorOptReqs (if e = .stopOnError then none else some e)) = true
    split
    · rfl
    · rw [allOk_errorOptReqs]; exact hc
  | testOption t =>
    obtain ⟨rfl, hc⟩ := ite_ok hs
    refine ⟨h1, h2, h3, ?_⟩
    show allOk _ (testOptReqs (if t = .testThenSet then none else some t)) = true
    split
    · rfl
    · rw [allOk_testOptReqs]; exact hc

theorem editConfig_safe {cfg ctx cs r} (h : build cfg ctx (.editConfig cs) = .ok r)
    (hx : cfg.editStartupCheck = false → ∀ a b c d, r ≠ .editConfig (.ds .startup) a b c d) :
    allOk ctx.caps (requiresL r) = true := by
  obtain ⟨_, st, o, hst, hf, rfl⟩ := (build_run rfl).1 h
  obtain ⟨h1, h2, h3, h4⟩ : EditConfig.Inv cfg ctx.caps st :=
    foldCalls_inv (EditConfig.Inv cfg ctx.caps) (EditConfig.step_inv cfg ctx) hst ⟨nofun, nofun, rfl, rfl⟩
  simp only [EditConfig.finish] at hf
  split at hf
  · cases hf
  · next t ht =>
    split at hf
    · cases hf
    · next src hsrc =>
      cases hf
      obtain ⟨htc, hts⟩ := h1 t (require_ok ht)
      have hns : t ≠ .startup := by
        by_cases hflag : cfg.editStartupCheck = true
        · exact hts hflag
        · intro hst; subst hst
          exact hx (by simpa using hflag) _ _ _ _ rfl
      unfold render requiresL
      simp only [allOk_append, allOk_editTargetReqs, htc, h3, h4, bne_iff_ne.2 hns, Bool.and_self, Bool.true_and]
      cases src with
      | config => rfl
      | url s => exact (allOk_singleton ..).trans (h2 s (require_ok hsrc))

def CopyConfig.Inv (caps : List Capability) (st : CopyConfig.State) : Prop :=
  (∀ d, st.target = some d → (targetReq d).check caps = true)
  ∧ (∀ d, st.source = some (.datastore d) → (sourceReq d).check caps = true)

theorem CopyConfig.step_inv (ctx) (s : CopyConfig.State) (c : CopyConfig.Call) (s' : CopyConfig.State)
    (hs : CopyConfig.step ctx s c = .ok s') (hp : CopyConfig.Inv ctx.caps s) :
    CopyConfig.Inv ctx.caps s' := by
  obtain ⟨h1, h2⟩ := hp
  cases c with
  | target d =>
    simp only [CopyConfig.step, CopyConfig.target] at hs
    split at hs
    · next d' hd =>
      obtain ⟨rfl, hc⟩ := ite_ok hd
      cases hs; exact ⟨fun _ h => by cases h; exact hc, h2⟩
    · cases hs
  | source d =>
    simp only [CopyConfig.step, CopyConfig.source] at hs
    split at hs
    · next d' hd =>
      obtain ⟨rfl, hc⟩ := ite_ok hd
      cases hs; exact ⟨h1, fun _ h => by cases h; exact hc⟩
    · cases hs
  | config => cases hs; exact ⟨h1, nofun⟩

theorem allOk_renderSource (op) {caps} {src : Source}
    (h : ∀ d, src = .datastore d → (sourceReq d).check caps = true) :
    allOk caps (sourceReqs op (renderSource src)) = true := by
  cases src with
  | datastore d => exact (allOk_sourceReqs op caps d).trans (h d rfl)
  | config => rfl

theorem copyConfig_safe {cfg ctx cs r} (h : build cfg ctx (.copyConfig cs) = .ok r) :
    allOk ctx.caps (requiresL r) = true := by
  obtain ⟨_, st, o, hst, hf, rfl⟩ := (build_run rfl).1 h
  obtain ⟨h1, h2⟩ : CopyConfig.Inv ctx.caps st :=
    foldCalls_inv (CopyConfig.Inv ctx.caps) (CopyConfig.step_inv ctx) hst ⟨nofun, nofun⟩
  simp only [CopyConfig.finish] at hf
  split at hf
  · cases hf
  · next t ht =>
    split at hf
    · cases hf
    · next src hsrc =>
      cases hf
      unfold render requiresL
      simp only [allOk_append, allOk_copyTargetReqs, h1 t (require_ok ht), Bool.true_and]
      exact allOk_renderSource _ (fun d hd => h2 d (hd ▸ require_ok hsrc))

def DeleteConfig.Inv (cfg : Cfg) (caps : List Capability) (st : DeleteConfig.State) : Prop :=
  (∀ d, st.target = some (.datastore d) →
      (targetReq d).check caps = true ∧ d ≠ .running ∧ (cfg.deleteCandidateCheck = true → d ≠ .candidate))
  ∧ (∀ s, st.target = some (.url s) → (Requirement.urlScheme s).check caps = true)

theorem DeleteConfig.step_inv (cfg ctx) (s : DeleteConfig.State) (c : DeleteConfig.Call) (s' : DeleteConfig.State)
    (hs : DeleteConfig.step cfg ctx s c = .ok s') (_hp : DeleteConfig.Inv cfg ctx.caps s) :
    DeleteConfig.Inv cfg ctx.caps s' := by
  cases c with
  | target d =>
    simp only [DeleteConfig.step, DeleteConfig.target] at hs
    split at hs
    · cases hs
    · next hnr =>
      split at hs
      · cases hs
      · next hnc =>
        split at hs
        · next d' hd =>
          obtain ⟨rfl, hc⟩ := ite_ok hd
          cases hs
          exact ⟨fun _ h => by cases h; exact ⟨hc, hnr, fun hflag hcd => hnc ⟨hflag, hcd⟩⟩, nofun⟩
        · cases hs
  | url u =>
    simp only [DeleteConfig.step, DeleteConfig.url] at hs
    split at hs
    · next sch hu => cases hs; exact ⟨nofun, fun _ h => by cases h; exact (urlTryNew_ok_iff.1 hu).2⟩
    · cases hs

theorem deleteConfig_safe {cfg ctx cs r} (h : build cfg ctx (.deleteConfig cs) = .ok r)
    (hx : cfg.deleteCandidateCheck = false → r ≠ .deleteConfig (.ds .candidate)) :
    allOk ctx.caps (requiresL r) = true := by
  obtain ⟨_, st, o, hst, hf, rfl⟩ := (build_run rfl).1 h
  obtain ⟨h1, h2⟩ : DeleteConfig.Inv cfg ctx.caps st :=
    foldCalls_inv (DeleteConfig.Inv cfg ctx.caps) (DeleteConfig.step_inv cfg ctx) hst ⟨nofun, nofun⟩
  simp only [DeleteConfig.finish] at hf
  split at hf
  · next t ht =>
    cases hf
    cases t with
    | datastore d =>
      obtain ⟨hc, hnr, hnc⟩ := h1 d (require_ok ht)
      have hnc' : d ≠ .candidate := by
        by_cases hflag : cfg.deleteCandidateCheck = true
        · exact hnc hflag
        · intro hcd; subst hcd
          exact hx (by simpa using hflag) rfl
      cases d
      · exact absurd rfl hnr
      · exact absurd rfl hnc'
      · exact (allOk_deleteTargetReqs ctx.caps .startup).trans hc
    | url s => exact (allOk_singleton ..).trans (h2 s (require_ok ht))
  · cases hf

theorem Lock.fold_inv {ctx cs st} (hst : foldCalls (Lock.step ctx) Lock.new cs = .ok st) :
    ∀ d, st.target = some d → (lockTargetReq d).check ctx.caps = true := by
  refine foldCalls_inv (fun st => ∀ d, st.target = some d → (lockTargetReq d).check ctx.caps = true) ?_ hst nofun
  intro s c s' hs _
  cases c with
  | target d =>
    simp only [Lock.step, Lock.target] at hs
    split at hs
    · next d' hd =>
      obtain ⟨rfl, hc⟩ := ite_ok hd
      cases hs; exact fun _ h => by cases h; exact hc
    · cases hs

/-- no clause for `confirmTimeout`: `<confirm-timeout>` is written only together with `<confirmed/>` (commit.rs:33-63),
whose entry of the table is the same -/
def Commit.Inv (caps : List Capability) (st : Commit.State) : Prop :=
  (st.confirmed = true → confirmedAny.check caps = true)
  ∧ (st.persist.isSome = true → (Requirement.cap .confirmedCommit11).check caps = true)
  ∧ (st.persistId.isSome = true → (Requirement.cap .confirmedCommit11).check caps = true)

/-- `Commit.confirmedReq` is `confirmedAny` and `Commit.persistReq` is `.cap .confirmedCommit11`, by unfolding -/
theorem Commit.step_inv (ctx) (s : Commit.State) (c : Commit.Call) (s' : Commit.State)
    (hs : Commit.step ctx s c = .ok s') (hp : Commit.Inv ctx.caps s) : Commit.Inv ctx.caps s' := by
  obtain ⟨h1, h3, h4⟩ := hp
  cases c with
  | confirmed b =>
    simp only [Commit.step, Commit.confirmed] at hs
    split at hs
    · next hu => cases hs; exact ⟨fun _ => (ite_ok hu).2, h3, h4⟩
    · cases hs
  | confirmTimeout t =>
    simp only [Commit.step, Commit.confirmTimeout] at hs
    split at hs
    · cases hs; exact ⟨h1, h3, h4⟩
    · cases hs
  | persist t =>
    simp only [Commit.step, Commit.persist] at hs
    split at hs
    · next hu => cases hs; exact ⟨h1, fun _ => (ite_ok hu).2, h4⟩
    · cases hs
  | persistId t =>
    simp only [Commit.step, Commit.persistId] at hs
    split at hs
    · next hu => cases hs; exact ⟨h1, h3, fun _ => (ite_ok hu).2⟩
    · cases hs

theorem allOk_ite (caps) (b : Prop) [Decidable b] (lq : Labelled) :
    allOk caps (if b then [lq] else []) = (!decide b || lq.2.check caps) := by
  split <;> simp [allOk, *]

/-- 8.4.5.1, parameter by parameter -/
theorem allOk_commitParamReqs (caps) (c : Bool) (t : Option Nat) (p pid : Option Str) :
    allOk caps (commitParamReqs c t p pid) =
      ((!c || confirmedAny.check caps) && (!t.isSome || confirmedAny.check caps)
        && (!p.isSome || (Requirement.cap .confirmedCommit11).check caps)
        && (!pid.isSome || (Requirement.cap .confirmedCommit11).check caps)) := by
  simp only [commitParamReqs, allOk_append, allOk_ite, Bool.decide_eq_true]

theorem commit_safe {cfg ctx cs r} (h : build cfg ctx (.commit cs) = .ok r) :
    allOk ctx.caps (requiresL r) = true := by
  obtain ⟨hop, st, o, hst, hf, rfl⟩ := (build_run rfl).1 h
  obtain ⟨h1, h3, h4⟩ : Commit.Inv ctx.caps st :=
    foldCalls_inv (Commit.Inv ctx.caps) (Commit.step_inv ctx) hst ⟨nofun, nofun, nofun⟩
  have hcand : (Requirement.cap .candidate).check ctx.caps = true := hop
  simp only [Commit.finish] at hf
  split at hf
  · cases hf
  · split at hf
    · cases hf
    · cases hf
      dsimp only [render]
      split
      · next hc =>
        -- `<confirmed/>` is written, so both of its entries hold by `h1`; `<persist>` by `h3`; no `<persist-id>`
        unfold requiresL
        simp only [allOk_cons, hcand, Bool.true_and, allOk_commitParamReqs, h1 hc]
        cases hp : st.persist with
        | none => simp
        | some p => simp [h3 (by rw [hp]; rfl)]
      · -- only `<persist-id>` can be written, and its entry holds by `h4`
        unfold requiresL
        simp only [allOk_cons, hcand, Bool.true_and, allOk_commitParamReqs]
        cases hp : st.persistId with
        | none => simp
        | some p => simp [h4 (by rw [hp]; rfl)]

theorem validate_safe {cfg ctx cs r} (h : build cfg ctx (.validate cs) = .ok r) :
    allOk ctx.caps (requiresL r) = true := by
  obtain ⟨hop, st, o, hst, hf, rfl⟩ := (build_run rfl).1 h
  have inv := foldCalls_inv
    (fun st => ∀ d, st.source = some (.datastore d) → (sourceReq d).check ctx.caps = true)
    (by
      intro s c s' hs _
      cases c with
      | source d =>
        simp only [Validate.step, Validate.source] at hs
        split at hs
        · next d' hd =>
          obtain ⟨rfl, hc⟩ := ite_ok hd
          cases hs; exact fun _ h => by cases h; exact hc
        · cases hs
      | config => cases hs; exact nofun)
    hst nofun
  simp only [Validate.finish] at hf
  split at hf
  · next src hsrc =>
    cases hf
    have hval : validateAny.check ctx.caps = true := hop
    unfold render requiresL
    simp only [allOk_cons, hval, Bool.true_and]
    exact allOk_renderSource _ (fun d hd => inv d (hd ▸ require_ok hsrc))
  · cases hf

/-- every Junos operation is rendered as a `Request.junos`, whose only entry is the Junos capability, which
is the operation-level requirement -/
theorem junos_safe {cfg ctx b r} (h : build cfg ctx b = .ok r) (hj : requiredCapabilities b = .one .junos) :
    allOk ctx.caps (requiresL r) = true := by
  obtain ⟨hop, o, ho, rfl⟩ := (build_ok_iff ..).1 h
  rw [hj] at hop
  suffices ∃ j, render o = .junos j by
    obtain ⟨j, hj⟩ := this
    rw [hj]; exact (allOk_singleton ..).trans hop
  cases b <;> first | cases hj | skip
  · cases ho; exact ⟨_, rfl⟩
  · cases ho; exact ⟨_, rfl⟩
  · cases ho; exact ⟨_, rfl⟩
  · obtain ⟨st, _, hf⟩ := thenFinish_ok_iff.1 ho
    simp only [OpenConfiguration.finish] at hf
    split at hf <;> cases hf
    exact ⟨_, rfl⟩
  · obtain ⟨st, _, hf⟩ := thenFinish_ok_iff.1 ho
    simp only [LoadConfiguration.finish] at hf
    split at hf <;> cases hf
    next src _ => cases src <;> exact ⟨_, rfl⟩
  · obtain ⟨st, _, hf⟩ := thenFinish_ok_iff.1 ho
    cases hf; exact ⟨_, rfl⟩

/-- Safety for an arbitrary configuration, with one hypothesis per unchecked builder method. -/
theorem sent_implies_permitted_of (cfg : Cfg) (ctx : Ctx) (b : Build) (r : Request)
    (h : build cfg ctx b = .ok r)
    (hget : cfg.getFilterCheck = false → r ≠ .get (some .xpath))
    (hedit : cfg.editStartupCheck = false → ∀ a b c d, r ≠ .editConfig (.ds .startup) a b c d)
    (hdel : cfg.deleteCandidateCheck = false → r ≠ .deleteConfig (.ds .candidate)) :
    ∀ q ∈ requires r, q.check ctx.caps = true := by
  rw [← allOk_iff]
  cases b with
  | get cs => exact get_safe h hget
  | getConfig cs => exact getConfig_safe h
  | editConfig cs => exact editConfig_safe h hedit
  | copyConfig cs => exact copyConfig_safe h
  | deleteConfig cs => exact deleteConfig_safe h hdel
  | lock cs =>
    obtain ⟨_, st, o, hst, hf, rfl⟩ := (build_run rfl).1 h
    simp only [Lock.finishLock] at hf
    split at hf <;> cases hf
    next t ht => exact (allOk_lockTargetReqs ..).trans (Lock.fold_inv hst t (require_ok ht))
  | unlock cs =>
    obtain ⟨_, st, o, hst, hf, rfl⟩ := (build_run rfl).1 h
    simp only [Lock.finishUnlock] at hf
    split at hf <;> cases hf
    next t ht => exact (allOk_lockTargetReqs ..).trans (Lock.fold_inv hst t (require_ok ht))
  | killSession cs =>
    obtain ⟨_, st, o, _, hf, rfl⟩ := (build_run rfl).1 h
    simp only [KillSession.finish] at hf
    split at hf <;> cases hf
    rfl
  | commit cs => exact commit_safe h
  -- the table's entry is the operation-level requirement
  | cancelCommit cs =>
    obtain ⟨hop, st, o, _, hf, rfl⟩ := (build_run rfl).1 h
    cases hf; exact (allOk_singleton ..).trans hop
  | discardChanges =>
    obtain ⟨hop, o, ho, rfl⟩ := (build_ok_iff ..).1 h
    cases ho; exact (allOk_singleton ..).trans hop
  | validate cs => exact validate_safe h
  | closeSession =>
    obtain ⟨_, o, ho, rfl⟩ := (build_ok_iff ..).1 h
    cases ho; rfl
  | _ => exact junos_safe h rfl

theorem any_true_eq {α} (cs : List α) : cs.any (fun _ => true) = !cs.isEmpty := by
  cases cs <;> simp

theorem buildable_of_fold {cfg ctx b} {σ κ : Type} {step : σ → κ → Except ErrKind σ} {init : σ} {cs : List κ}
    {finish : σ → Except ErrKind Built} (hb : runBuilder cfg ctx b = thenFinish (foldCalls step init cs) finish)
    (hop : (requiredCapabilities b).check ctx.caps = true) {st} (hst : foldCalls step init cs = .ok st)
    {o} (hf : finish st = .ok o) : ∃ r, build cfg ctx b = .ok r :=
  ⟨_, (build_run hb).2 ⟨hop, st, o, hst, hf, rfl⟩⟩

theorem mem_flatMap_reqs {κ} {f : κ → List Requirement} {cs : List κ} {caps}
    (h : ∀ q ∈ cs.flatMap f, Requirement.check q caps = true) :
    ∀ c ∈ cs, ∀ q ∈ f c, Requirement.check q caps = true :=
  fun c hc q hq => h q (List.mem_flatMap.2 ⟨c, hc, hq⟩)

theorem GetConfig.step_succeeds (ctx) (c : GetConfig.Call)
    (h : ∀ q ∈ GetConfig.callRequires c, q.check ctx.caps = true) (s) :
    ∃ s', GetConfig.step ctx s c = .ok s' ∧ s'.source.isSome = (GetConfig.isSource c || s.source.isSome) := by
  cases c with
  | source d =>
    have h := (allOk_getConfigSourceReqs ..).symm.trans ((allOk_unlabel _ _).2 h)
    exact ⟨{ s with source := some d }, by simp [GetConfig.step, GetConfig.source, tryAsSource, h], rfl⟩
  | filter f =>
    exact ⟨{ s with filter := f }, by
      simp [GetConfig.step, GetConfig.filter, (filterOptTryUse_ok_iff "get-config").2 ⟨rfl, (allOk_unlabel _ _).2 h⟩],
      rfl⟩

theorem getConfig_buildable (cfg ctx cs) (hcalls : ∀ q ∈ callsRequire (.getConfig cs), q.check ctx.caps = true)
    (hcomp : complete (.getConfig cs) = true) :
    ∃ r, build cfg ctx (.getConfig cs) = .ok r := by
  obtain ⟨st, hst, hsrc⟩ := foldCalls_track (GetConfig.step ctx) GetConfig.isSource (·.source.isSome) cs
    (fun c hcm s => GetConfig.step_succeeds ctx c (mem_flatMap_reqs hcalls c hcm) s) GetConfig.new
  obtain ⟨d, hd⟩ := Option.isSome_iff_exists.1 (hsrc (by rw [show cs.any _ = true from hcomp]; rfl))
  exact buildable_of_fold (o := .getConfig d st.filter) rfl rfl hst (by simp [GetConfig.finish, require, hd])

theorem EditConfig.step_succeeds (cfg ctx) (c : EditConfig.Call)
    (h : ∀ q ∈ EditConfig.callRequires c, q.check ctx.caps = true) (hv : EditConfig.argValid c = true) (s) :
    ∃ s', EditConfig.step cfg ctx s c = .ok s'
      ∧ s'.target.isSome = (EditConfig.isTarget c || s.target.isSome)
      ∧ s'.source.isSome = (EditConfig.isContent c || s.source.isSome) := by
  cases c with
  | target d =>
    have h := (allOk_editTargetReqs ..).symm.trans ((allOk_unlabel _ _).2 h)
    simp only [Bool.and_eq_true, bne_iff_ne] at h
    exact ⟨{ s with target := some d }, by simp [EditConfig.step, EditConfig.target, tryAsTarget, h.1, h.2], rfl, rfl⟩
  | config => exact ⟨_, rfl, rfl, rfl⟩
  | url u =>
    cases u with
    | none => cases hv
    | some sch =>
      exact ⟨{ s with source := some (.url sch) }, by
        simp [EditConfig.step, EditConfig.url, urlTryNew_ok_iff.2 ⟨rfl, h _ (.head _)⟩], rfl, rfl⟩
  | defaultOperation o => exact ⟨_, rfl, rfl, rfl⟩
  | errorOption e =>
    have h := (allOk_errorOptReqs ..).symm.trans ((allOk_unlabel _ _).2 h)
    exact ⟨{ s with errorOpt := e }, by simp [EditConfig.step, EditConfig.errorOption, h], rfl, rfl⟩
  | testOption t =>
    have h := (allOk_testOptReqs ..).symm.trans ((allOk_unlabel _ _).2 h)
    exact ⟨{ s with testOpt := t }, by simp [EditConfig.step, EditConfig.testOption, h], rfl, rfl⟩

theorem editConfig_buildable (cfg ctx cs)
    (hcalls : ∀ q ∈ callsRequire (.editConfig cs), q.check ctx.caps = true)
    (hargs : argsValid ctx (.editConfig cs) = true)
    (hcomp : complete (.editConfig cs) = true) :
    ∃ r, build cfg ctx (.editConfig cs) = .ok r := by
  have hstep := fun c hcm s =>
    EditConfig.step_succeeds cfg ctx c (mem_flatMap_reqs hcalls c hcm) (List.all_eq_true.1 hargs c hcm) s
  simp only [complete, Bool.and_eq_true] at hcomp
  obtain ⟨st, hst, ht⟩ := foldCalls_track (EditConfig.step cfg ctx) EditConfig.isTarget (·.target.isSome) cs
    (fun c hcm s => (hstep c hcm s).imp fun _ h => ⟨h.1, h.2.1⟩) EditConfig.new
  obtain ⟨st', hst', hs⟩ := foldCalls_track (EditConfig.step cfg ctx) EditConfig.isContent (·.source.isSome) cs
    (fun c hcm s => (hstep c hcm s).imp fun _ h => ⟨h.1, h.2.2⟩) EditConfig.new
  -- the two runs of the fold are one run: same calls, same start
  cases hst.symm.trans hst'
  obtain ⟨t, ht⟩ := Option.isSome_iff_exists.1 (ht (by rw [hcomp.1]; rfl))
  obtain ⟨src, hsrc⟩ := Option.isSome_iff_exists.1 (hs (by rw [hcomp.2]; rfl))
  exact buildable_of_fold (o := .editConfig t src st.defaultOp st.errorOpt st.testOpt) rfl rfl hst
    (by simp [EditConfig.finish, require, ht, hsrc])

theorem CopyConfig.step_succeeds (ctx) (c : CopyConfig.Call)
    (h : ∀ q ∈ CopyConfig.callRequires c, q.check ctx.caps = true) (s) :
    ∃ s', CopyConfig.step ctx s c = .ok s'
      ∧ s'.target.isSome = (CopyConfig.isTarget c || s.target.isSome)
      ∧ s'.source.isSome = (CopyConfig.isSource c || s.source.isSome) := by
  cases c with
  | target d =>
    have h := (allOk_copyTargetReqs ..).symm.trans ((allOk_unlabel _ _).2 h)
    exact ⟨{ s with target := some d }, by simp [CopyConfig.step, CopyConfig.target, tryAsTarget, h], rfl, rfl⟩
  | source d =>
    have h := (allOk_sourceReqs ..).symm.trans ((allOk_unlabel _ _).2 h)
    exact ⟨{ s with source := some (.datastore d) }, by simp [CopyConfig.step, CopyConfig.source, tryAsSource, h],
      rfl, rfl⟩
  | config => exact ⟨_, rfl, rfl, rfl⟩

theorem copyConfig_buildable (cfg ctx cs)
    (hcalls : ∀ q ∈ callsRequire (.copyConfig cs), q.check ctx.caps = true)
    (hcomp : complete (.copyConfig cs) = true) :
    ∃ r, build cfg ctx (.copyConfig cs) = .ok r := by
  have hstep := fun c hcm s => CopyConfig.step_succeeds ctx c (mem_flatMap_reqs hcalls c hcm) s
  simp only [complete, Bool.and_eq_true] at hcomp
  obtain ⟨st, hst, ht⟩ := foldCalls_track (CopyConfig.step ctx) CopyConfig.isTarget (·.target.isSome) cs
    (fun c hcm s => (hstep c hcm s).imp fun _ h => ⟨h.1, h.2.1⟩) CopyConfig.new
  obtain ⟨st', hst', hs⟩ := foldCalls_track (CopyConfig.step ctx) CopyConfig.isSource (·.source.isSome) cs
    (fun c hcm s => (hstep c hcm s).imp fun _ h => ⟨h.1, h.2.2⟩) CopyConfig.new
  -- the two runs of the fold are one run: same calls, same start
  cases hst.symm.trans hst'
  obtain ⟨t, ht⟩ := Option.isSome_iff_exists.1 (ht (by rw [hcomp.1]; rfl))
  obtain ⟨src, hsrc⟩ := Option.isSome_iff_exists.1 (hs (by rw [hcomp.2]; rfl))
  exact buildable_of_fold (o := .copyConfig t src) rfl rfl hst (by simp [CopyConfig.finish, require, ht, hsrc])

/-- the builders whose every call sets the one mandatory field `f`, which is all `finish` asks for: `complete` = some
call was made -/
theorem buildable_of_all {cfg ctx b} {σ κ α : Type} {step : σ → κ → Except ErrKind σ} {init : σ} {cs : List κ}
    {finish : σ → Except ErrKind Built} (f : σ → Option α)
    (hb : runBuilder cfg ctx b = thenFinish (foldCalls step init cs) finish)
    (hop : (requiredCapabilities b).check ctx.caps = true) (hne : (!cs.isEmpty) = true)
    (hstep : ∀ c ∈ cs, ∀ s, ∃ s', step s c = .ok s' ∧ (f s').isSome = true)
    (hfin : ∀ st t, f st = some t → ∃ o, finish st = .ok o) : ∃ r, build cfg ctx b = .ok r := by
  obtain ⟨st, hst, hp⟩ := foldCalls_track step (fun _ => true) (fun s => (f s).isSome) cs
    (fun c hc s => (hstep c hc s).imp fun _ h => ⟨h.1, h.2⟩) init
  obtain ⟨t, ht⟩ := Option.isSome_iff_exists.1 (hp (by rw [any_true_eq, hne]; rfl))
  obtain ⟨o, ho⟩ := hfin st t ht
  exact buildable_of_fold hb hop hst ho

theorem deleteConfig_buildable (cfg ctx cs)
    (hcalls : ∀ q ∈ callsRequire (.deleteConfig cs), q.check ctx.caps = true)
    (hargs : argsValid ctx (.deleteConfig cs) = true)
    (hcomp : complete (.deleteConfig cs) = true) :
    ∃ r, build cfg ctx (.deleteConfig cs) = .ok r := by
  refine buildable_of_all (·.target) rfl rfl hcomp (fun c hcm s => ?_)
    (fun st t ht => ⟨.deleteConfig t, by simp [DeleteConfig.finish, require, ht]⟩)
  have h := mem_flatMap_reqs hcalls c hcm
  cases c with
  | target d =>
    have h := (allOk_deleteTargetReqs ..).symm.trans ((allOk_unlabel _ _).2 h)
    simp only [Bool.and_eq_true, beq_iff_eq] at h
    obtain ⟨rfl, h⟩ := h
    exact ⟨{ s with target := some (.datastore .startup) },
      by simp [DeleteConfig.step, DeleteConfig.target, tryAsTarget, h], rfl⟩
  | url u =>
    cases u with
    | none => cases List.all_eq_true.1 hargs _ hcm
    | some sch =>
      exact ⟨{ s with target := some (.url sch) },
        by simp [DeleteConfig.step, DeleteConfig.url, urlTryNew_ok_iff.2 ⟨rfl, h _ (.head _)⟩], rfl⟩

theorem Lock.step_succeeds (op) {ctx : Ctx} {cs : List Lock.Call} (hcalls : ∀ q ∈ cs.flatMap (Lock.callRequires op), q.check ctx.caps = true) :
    ∀ c ∈ cs, ∀ s, ∃ s', Lock.step ctx s c = .ok s' ∧ s'.target.isSome = true := by
  intro c hcm s
  cases c with
  | target d =>
    have h := (allOk_lockTargetReqs ..).symm.trans ((allOk_unlabel _ _).2 (mem_flatMap_reqs hcalls _ hcm))
    exact ⟨{ s with target := some d }, by simp [Lock.step, Lock.target, tryAsLockTarget, h], rfl⟩

theorem validate_buildable (cfg ctx cs)
    (hop : ∀ q ∈ opRequires (.validate cs), q.check ctx.caps = true)
    (hcalls : ∀ q ∈ callsRequire (.validate cs), q.check ctx.caps = true)
    (hcomp : complete (.validate cs) = true) :
    ∃ r, build cfg ctx (.validate cs) = .ok r := by
  refine buildable_of_all (·.source) rfl (hop _ (.head _)) hcomp (fun c hcm s => ?_)
    (fun st t ht => ⟨.validate t, by simp [Validate.finish, require, ht]⟩)
  cases c with
  | source d =>
    have h := (allOk_sourceReqs ..).symm.trans ((allOk_unlabel _ _).2 (mem_flatMap_reqs hcalls _ hcm))
    exact ⟨{ s with source := some (.datastore d) }, by simp [Validate.step, Validate.source, tryAsSource, h], rfl⟩
  | config => exact ⟨_, rfl, rfl⟩

/-! commit: `finish` asks for compatible parameters, so the final state is needed exactly -/
theorem Commit.step_succeeds (ctx) (c : Commit.Call)
    (h : ∀ q ∈ Commit.callRequires c, q.check ctx.caps = true) (s) :
    Commit.step ctx s c = .ok (Commit.record s c) := by
  cases c with
  | confirmed b =>
    have : Commit.confirmedReq.check ctx.caps = true := h confirmedAny (.head _)
    simp [Commit.step, Commit.confirmed, Commit.tryUse, this, Commit.record]
  | confirmTimeout t =>
    have : Commit.confirmedReq.check ctx.caps = true := h confirmedAny (.head _)
    simp [Commit.step, Commit.confirmTimeout, Commit.tryUse, this, Commit.record]
  | persist t =>
    have : Commit.persistReq.check ctx.caps = true := h (.cap .confirmedCommit11) (.head _)
    simp [Commit.step, Commit.persist, Commit.tryUse, this, Commit.record]
  | persistId t =>
    have : Commit.persistReq.check ctx.caps = true := h (.cap .confirmedCommit11) (.head _)
    simp [Commit.step, Commit.persistId, Commit.tryUse, this, Commit.record]

theorem foldCalls_eq_foldl {σ κ : Type} (step : σ → κ → Except ErrKind σ) (record : σ → κ → σ) :
    ∀ (cs : List κ), (∀ c ∈ cs, ∀ s, step s c = .ok (record s c)) →
      ∀ s, foldCalls step s cs = .ok (cs.foldl record s) := by
  intro cs
  induction cs with
  | nil => intro _ s; rfl
  | cons c cs ih =>
    intro h s
    rw [foldCalls, h c (by simp) s]
    exact ih (fun c' hc' => h c' (by simp [hc'])) _

theorem commit_buildable (cfg ctx cs)
    (hop : ∀ q ∈ opRequires (.commit cs), q.check ctx.caps = true)
    (hcalls : ∀ q ∈ callsRequire (.commit cs), q.check ctx.caps = true)
    (hcomp : complete (.commit cs) = true) :
    ∃ r, build cfg ctx (.commit cs) = .ok r := by
  have hst := foldCalls_eq_foldl (Commit.step ctx) Commit.record cs
    (fun c hcm s => Commit.step_succeeds ctx c (mem_flatMap_reqs hcalls c hcm) s) Commit.new
  -- `complete` says that neither of the two conditions `finish` refuses holds of the final state
  obtain ⟨h1, h2⟩ := (Bool.and_eq_true _ _).mp (show Commit.compatible _ = true from hcomp)
  suffices ∃ o, Commit.finish (cs.foldl Commit.record Commit.new) = .ok o from
    this.elim fun _ hf => buildable_of_fold rfl (hop _ (.head _)) hst hf
  unfold Commit.finish
  rw [if_neg (fun h => by rw [h.1, h.2] at h1; cases h1),
    if_neg (fun h => by rw [(Bool.not_eq_true _).mp h.1, h.2] at h2; cases h2)]
  exact ⟨_, rfl⟩
end Builders
