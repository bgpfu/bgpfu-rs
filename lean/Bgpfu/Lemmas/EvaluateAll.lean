import Bgpfu.Lemmas.Irr
/-!
History independence of `evaluate` and the reduction of `evaluateAll` (all candidates on one
evaluator) to the candidates' outcomes on fresh evaluators.
-/
namespace Irr
open Rpsl

theorem beginEval_eq_fresh (st : Ev) (h : Clean st) : beginEval st = Ev.fresh := by
  obtain ⟨⟨u, n⟩, hc, rfl⟩ := h
  simp [beginEval, hc, Ev.fresh]

theorem fresh_clean : Clean Ev.fresh := ⟨_, rfl, rfl⟩

theorem evaluate_clean_eq_fresh (cfg : Cfg) (db : Db) (fuel : Nat) (e : Expr) (f : Faults) (st : Ev)
    (h : Clean st) : evaluate cfg db fuel e f st = evaluate cfg db fuel e f Ev.fresh := by
  unfold evaluate
  rw [beginEval_eq_fresh st h, beginEval_eq_fresh _ fresh_clean]

theorem evalSeq_clean (cfg : Cfg) (db : Db) (fuel : Nat) (h : List (Expr × Faults)) (st : Ev)
    (hst : Clean st) : Clean (evalSeq cfg db fuel h st).2 := by
  induction h generalizing st with
  | nil => exact hst
  | cons x h ih =>
    obtain ⟨e, f⟩ := x
    have := (evaluate_inv cfg db fuel e f st hst).1
    rcases he : evaluate cfg db fuel e f st with ⟨o, st', ev⟩
    rw [he] at this
    simp only [evalSeq, he]
    exact ih st' this

/-- what a candidate's `Evaluated.ranges` is, given the outcome of evaluating its expression -/
def candOut : Outcome PSet → Option Parts
  | .ok s => some (partition s)
  | _ => none

theorem candOut_eq_some {o : Outcome PSet} {ps : Parts} :
    candOut o = some ps ↔ ∃ P, o = .ok P ∧ partition P = ps := by
  cases o <;> simp [candOut]

def RunOutcome.cons (x : String × Option Parts) : RunOutcome → RunOutcome
  | .done outs => .done (x :: outs)
  | r => r

/-- `Policies<Candidate>::evaluate` as a function of the candidates' individual outcomes -/
def runSpec (cfg : Cfg) : List (String × Outcome PSet) → RunOutcome
  | [] => .done []
  | (n, o) :: rest =>
    match o with
    | .ok s => (runSpec cfg rest).cons (n, some (partition s))
    | .err _ => (runSpec cfg rest).cons (n, none)
    | .panic k => if cfg.catchPanic then (runSpec cfg rest).cons (n, none) else .abort k
    | .diverge => .diverge

/-- a candidate's outcome when it is evaluated alone, on a fresh evaluator -/
def solo (cfg : Cfg) (db : Db) (fuel : Nat) (c : String × Expr × Faults) : Outcome PSet :=
  (evaluate cfg db fuel c.2.1 c.2.2 Ev.fresh).1

theorem evaluateAll_spec (cfg : Cfg) (db : Db) (fuel : Nat) (l : List (String × Expr × Faults)) (st : Ev)
    (hst : Clean st) :
    (evaluateAll cfg db fuel l st).1 = runSpec cfg (l.map fun c => (c.1, solo cfg db fuel c)) ∧
      Clean (evaluateAll cfg db fuel l st).2.1 := by
  induction l generalizing st with
  | nil => exact ⟨rfl, hst⟩
  | cons c l ih =>
    obtain ⟨n, e, f⟩ := c
    have hsolo : solo cfg db fuel (n, e, f) = (evaluate cfg db fuel e f st).1 := by
      unfold solo; rw [evaluate_clean_eq_fresh cfg db fuel e f st hst]
    have hclean := (evaluate_inv cfg db fuel e f st hst).1
    simp only [evaluateAll, List.map_cons, runSpec, hsolo]
    revert hclean
    rcases evaluate cfg db fuel e f st with ⟨o, st', ev⟩
    intro hclean
    have ih' := ih st' hclean
    revert ih'
    rcases evaluateAll cfg db fuel l st' with ⟨r, st'', ev'⟩
    rintro ⟨ih1, ih2⟩
    rw [← ih1]
    -- `continue_` conses onto a `done` and passes anything else on, like `RunOutcome.cons`
    cases o with
    | ok s => cases r <;> exact ⟨rfl, ih2⟩
    | err k => cases r <;> exact ⟨rfl, ih2⟩
    | panic k =>
      by_cases hc : cfg.catchPanic
      · simp only [hc, if_true]; cases r <;> exact ⟨rfl, ih2⟩
      · simp only [hc]; exact ⟨rfl, hclean⟩
    | diverge => exact ⟨rfl, hclean⟩

theorem RunOutcome.cons_eq_done (x : String × Option Parts) (r : RunOutcome) (outs : List (String × Option Parts)) :
    r.cons x = .done outs ↔ ∃ outs', r = .done outs' ∧ outs = x :: outs' := by
  cases r <;> simp [RunOutcome.cons, eq_comm]

/-- the run goes on after a candidate with outcome `o`: it neither diverged nor panicked uncaught -/
def GoesOn (cfg : Cfg) (o : Outcome PSet) : Prop := o ≠ .diverge ∧ ∀ k, o = .panic k → cfg.catchPanic = true

theorem runSpec_eq_done (cfg : Cfg) (l : List (String × Outcome PSet)) (outs : List (String × Option Parts)) :
    runSpec cfg l = .done outs ↔ (∀ x ∈ l, GoesOn cfg x.2) ∧ outs = l.map fun x => (x.1, candOut x.2) := by
  induction l generalizing outs with
  | nil => simp [runSpec, eq_comm]
  | cons x l ih =>
    obtain ⟨n, o⟩ := x
    rw [List.forall_mem_cons]
    have goOn : ∀ r, GoesOn cfg o → ((runSpec cfg l).cons (n, r) = .done outs ↔
        (GoesOn cfg o ∧ ∀ x ∈ l, GoesOn cfg x.2) ∧ outs = (n, r) :: l.map fun x => (x.1, candOut x.2)) := by
      intro r ho
      rw [RunOutcome.cons_eq_done, and_iff_right ho]
      constructor
      · rintro ⟨outs', h1, rfl⟩
        obtain ⟨h2, rfl⟩ := (ih outs').mp h1
        exact ⟨h2, rfl⟩
      · rintro ⟨h2, rfl⟩
        exact ⟨_, (ih _).mpr ⟨h2, rfl⟩, rfl⟩
    cases o with
    | ok s => exact goOn _ ⟨nofun, nofun⟩
    | err e => exact goOn _ ⟨nofun, nofun⟩
    | panic k =>
      by_cases hc : cfg.catchPanic = true
      · simp only [runSpec, hc, if_true]; exact goOn _ ⟨nofun, fun _ _ => hc⟩
      · simp only [runSpec, hc]; exact ⟨nofun, fun h => absurd (h.1.1.2 k rfl) hc⟩
    | diverge => exact ⟨nofun, fun h => absurd rfl h.1.1.1⟩

theorem evaluateAll_done_iff (cfg : Cfg) (db : Db) (fuel : Nat) (l : List (String × Expr × Faults)) (st : Ev)
    (hst : Clean st) (outs : List (String × Option Parts)) :
    (evaluateAll cfg db fuel l st).1 = .done outs ↔
      (∀ c ∈ l, GoesOn cfg (solo cfg db fuel c)) ∧ outs = l.map fun c => (c.1, candOut (solo cfg db fuel c)) := by
  rw [(evaluateAll_spec cfg db fuel l st hst).1, runSpec_eq_done, List.map_map]
  exact and_congr_left fun _ => List.forall_mem_map

end Irr
