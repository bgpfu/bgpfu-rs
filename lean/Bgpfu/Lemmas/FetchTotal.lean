import Bgpfu.Model.FetchInstalled
import Bgpfu.Lemmas.FetchRename
/-! Totality of the agent's configuration readers (`Model/Fetch.lean`, `Model/FetchInstalled.lean`): on EVERY
event list — grammar document or not — every loop consumes an event per iteration and `evs.length + 1`
iterations suffice, so the model artefact `Err.fuel` is never the answer (`policiesLoop_total`, `readData_total`; the two
facts about `readCandidates` and `readInstalledDoc` are `readCandidates_total` in Thm/C16 and `readInstalledEv_total` in
Thm/C01). Each loop is `Good` by `fun_induction`, which has one goal per arm; each alternative of the `first` list is one
rule `Good.*` of `Lemmas/Totality.lean` with the sub-reader it is for, and `‹_›` picks up what the arm provides: the
induction hypothesis or the equation of the `match` on the sub-reader's result. `FetchRename` is imported (it brings `Totality`) so that the auxiliary lemmas Lean derives
for the matchers of the loops, which both modules ask for, exist once for a module that imports both. -/
namespace Xml
open Policy (Fam)

theorem attrLoop_err (p : String → Option String) (acc : Option FExpr) (l : List AttrItem) (e : Err)
    (h : attrLoop p acc l = .error e) : e ≠ .fuel := by
  fun_induction attrLoop p acc l <;> grind

theorem readText_good (t : Tag) (evs : List Ev) (fuel : Nat) : Good evs fuel (readText t evs) := by
  cases h : readText t evs with
  | error e => exact .error (readText_err _ _ _ h)
  | ok v => exact .ok (readText_shorter _ _ _ _ h)

theorem readName_good (u : String → Option String) (t : Tag) (evs : List Ev) (fuel : Nat) :
    Good evs fuel (readName u t evs) := by
  unfold readName
  split
  · exact .error (readText_err _ _ _ ‹_›)
  · split
    · exact .ok (readText_shorter _ _ _ _ ‹_›)
    · exact .error (by decide)

theorem thenLoop_good (c : FCfg) (fuel : Nat) (endRaw : String) (rj ot : Bool) (evs : List Ev) :
    Good evs fuel (thenLoop c fuel endRaw rj ot evs) := by
  fun_induction thenLoop c fuel endRaw rj ot evs
  all_goals first
    | exact .zero
    | exact .error (by decide)
    | exact .ok (Nat.lt_succ_self _)
    | exact .step ‹_› (Nat.lt_succ_self _)
    | exact .error (skipToEnd_err _ _ _ _ ‹_›)
    | exact .step ‹_› (Nat.lt_succ_of_lt (skipToEnd_shorter _ _ _ _ ‹_›))

theorem bodyLoop_good (c : FCfg) (u : String → Option String) (fuel : Nat) (endRaw : String) (st : BodySt) (evs : List Ev) :
    Good evs fuel (bodyLoop c u fuel endRaw st evs) := by
  fun_induction bodyLoop c u fuel endRaw st evs
  all_goals first
    | exact .zero
    | exact .error (by decide)
    | exact .ok (Nat.lt_succ_self _)
    | exact .step ‹_› (Nat.lt_succ_self _)
    | exact .error (skipToEnd_err _ _ _ _ ‹_›)
    | exact .step ‹_› (Nat.lt_succ_of_lt (skipToEnd_shorter _ _ _ _ ‹_›))
    | exact .failed (readName_good ..) ‹_›
    | exact .after (readName_good ..) ‹_› ‹_›
    | exact .failed (thenLoop_good ..) ‹_›
    | exact .after (thenLoop_good ..) ‹_› ‹_›

theorem bodyFinish_err (fe : FExpr) (st : BodySt) (e : Err) (h : st.finish fe = .error e) : e ≠ .fuel := by
  unfold BodySt.finish at h
  split at h
  · split at h
    · cases h
    · cases h; simp
  · cases h

theorem skipStmt_good {α} (fuel : Nat) (t : Tag) (evs : List Ev) :
    Good evs fuel (skipStmt t evs : Except Err (Option α × List Ev)) := by
  unfold skipStmt
  split
  · exact .ok (skipToEnd_shorter _ _ _ _ ‹_›)
  · exact .error (skipToEnd_err _ _ _ _ ‹_›)

def StmtReader.Good {T} (rd : StmtReader T) : Prop := ∀ fuel t evs, Xml.Good evs fuel (rd fuel t evs)

/-- `match loop … with | .error e => .error e | .ok (st, r) => match st.finish with …`: good if the loop is
and `finish` never answers `fuel` -/
macro "wrap_good " hb:term ", " hfin:term : tactic => `(tactic| (
  have hb := $hb
  split
  · rename_i e he
    exact ⟨by simp, fun hf h => by simp only [Except.error.injEq] at h; subst h; exact hb.2 hf he⟩
  · rename_i st r hr
    split
    · rename_i e he; have := $hfin _ _ he; simp [Good, this]
    · exact ⟨fun v rest h => by simp only [Except.ok.injEq, Prod.mk.injEq] at h; rw [← h.2]; exact hb.1 _ _ hr, by simp⟩))

theorem readCandidate_good (c : FCfg) (p u : String → Option String) : StmtReader.Good (readCandidate c p u) := by
  intro fuel t evs
  unfold readCandidate
  split
  · exact .error (attrLoop_err _ _ _ _ ‹_›)
  · exact skipStmt_good fuel t evs
  · exact skipStmt_good fuel t evs
  · wrap_good bodyLoop_good c u fuel t.raw {} evs, bodyFinish_err _

theorem policyOptionsLoop_good {T} (rd : StmtReader T) (h : StmtReader.Good rd) (fuel : Nat) (endRaw : String)
    (map : List (String × T)) (evs : List Ev) : Good evs fuel (policyOptionsLoop rd fuel endRaw map evs) := by
  fun_induction policyOptionsLoop rd fuel endRaw map evs
  all_goals first
    | exact .zero
    | exact .error (by decide)
    | exact .ok (Nat.lt_succ_self _)
    | exact .step ‹_› (Nat.lt_succ_self _)
    | exact .failed (h ..) ‹_›
    | exact .after (h ..) ‹_› ‹_›

theorem configurationLoop_good {T} (rd : StmtReader T) (h : StmtReader.Good rd) (fuel : Nat) (endRaw : String) (seen : Bool)
    (map : List (String × T)) (evs : List Ev) : Good evs fuel (configurationLoop rd fuel endRaw seen map evs) := by
  fun_induction configurationLoop rd fuel endRaw seen map evs
  all_goals first
    | exact .zero
    | exact .error (by decide)
    | exact .ok (Nat.lt_succ_self _)
    | exact .step ‹_› (Nat.lt_succ_self _)
    | exact .failed (policyOptionsLoop_good rd h ..) ‹_›
    | exact .after (policyOptionsLoop_good rd h ..) ‹_› ‹_›

/- `policiesLoop` returns no rest, so `Good` cannot be stated of it: only the half about `Err.fuel` is. -/
theorem policiesLoop_total {T} (rd : StmtReader T) (h : StmtReader.Good rd) (fuel : Nat) (endRaw : String)
    (this : Option (List (String × T))) (evs : List Ev) (hf : evs.length < fuel) :
    policiesLoop rd fuel endRaw this evs ≠ .error .fuel := by
  have hc := configurationLoop_good rd h
  fun_induction policiesLoop rd fuel endRaw this evs
  all_goals first
    | exact absurd hf (Nat.not_lt_zero _)
    | (intro h'; cases h'; done)
    | exact ‹_ → _› (Nat.lt_of_succ_lt_succ hf)
    | exact (hc ..).ne_fuel ‹_› (Nat.lt_of_succ_lt_succ hf)
    | exact ‹_ → _› (Nat.lt_trans ((hc ..).shorter ‹_›) (Nat.lt_of_succ_lt_succ hf))

theorem choiceValueLoop_good (fuel : Nat) (evs : List Ev) : Good evs fuel (choiceValueLoop fuel evs) := by
  fun_induction choiceValueLoop fuel evs
  all_goals first
    | exact .zero
    | exact .error (by decide)
    | exact .step ‹_› (Nat.lt_succ_self _)
    | exact .failed (readText_good ..) ‹_›
    | exact .ok (Nat.lt_succ_of_lt (readText_shorter _ _ _ _ ‹_›))

theorem routeFilterLoop_good (fuel : Nat) (endRaw : String) (st : RfSt) (evs : List Ev) :
    Good evs fuel (routeFilterLoop fuel endRaw st evs) := by
  fun_induction routeFilterLoop fuel endRaw st evs
  all_goals first
    | exact .zero
    | exact .error (by decide)
    | exact .ok (Nat.lt_succ_self _)
    | exact .step ‹_› (Nat.lt_succ_self _)
    | exact .failed (readText_good ..) ‹_›
    | exact .after (readText_good ..) ‹_› ‹_›
    | exact .after (readText_good ..) ‹_› ((choiceValueLoop_good ..).of_error ‹_›)
    | exact .step ‹_› (Nat.lt_trans ((choiceValueLoop_good ..).shorter ‹_›) (Nat.lt_succ_of_lt (readText_shorter _ _ _ _ ‹_›)))

theorem rfFinish_err (st : RfSt) (e : Err) (h : st.finish = .error e) : e ≠ .fuel := by
  unfold RfSt.finish at h
  split at h
  · cases h; simp
  · split at h
    · cases h; simp
    · cases h

theorem readRouteFilter_good (fuel : Nat) (t : Tag) (evs : List Ev) : Good evs fuel (readRouteFilter fuel t evs) := by
  unfold readRouteFilter
  wrap_good routeFilterLoop_good fuel t.raw {} evs, rfFinish_err

theorem fromLoop_good (fuel : Nat) (endRaw : String) (st : FromSt) (evs : List Ev) :
    Good evs fuel (fromLoop fuel endRaw st evs) := by
  fun_induction fromLoop fuel endRaw st evs
  all_goals first
    | exact .zero
    | exact .error (by decide)
    | exact .ok (Nat.lt_succ_self _)
    | exact .step ‹_› (Nat.lt_succ_self _)
    | exact .failed (readText_good ..) ‹_›
    | exact .after (readText_good ..) ‹_› ‹_›
    | exact .failed (readRouteFilter_good ..) ‹_›
    | exact .after (readRouteFilter_good ..) ‹_› ‹_›

theorem fromFinish_err (st : FromSt) (e : Err) (h : st.finish = .error e) : e ≠ .fuel := by
  unfold FromSt.finish at h
  split at h
  · cases h; simp
  · cases h

theorem readTermFrom_good (fuel : Nat) (t : Tag) (evs : List Ev) : Good evs fuel (readTermFrom fuel t evs) := by
  unfold readTermFrom
  wrap_good fromLoop_good fuel t.raw {} evs, fromFinish_err

theorem acceptLoop_good (fuel : Nat) (endRaw : String) (a : Bool) (evs : List Ev) :
    Good evs fuel (acceptLoop fuel endRaw a evs) := by
  fun_induction acceptLoop fuel endRaw a evs
  all_goals first
    | exact .zero
    | exact .error (by decide)
    | exact .ok (Nat.lt_succ_self _)
    | exact .step ‹_› (Nat.lt_succ_self _)

theorem termLoop_good (fuel : Nat) (endRaw : String) (st : TermSt) (evs : List Ev) :
    Good evs fuel (termLoop fuel endRaw st evs) := by
  fun_induction termLoop fuel endRaw st evs
  all_goals first
    | exact .zero
    | exact .error (by decide)
    | exact .ok (Nat.lt_succ_self _)
    | exact .step ‹_› (Nat.lt_succ_self _)
    | exact .failed (readText_good ..) ‹_›
    | exact .after (readText_good ..) ‹_› ‹_›
    | exact .failed (readTermFrom_good ..) ‹_›
    | exact .after (readTermFrom_good ..) ‹_› ‹_›
    | exact .failed (acceptLoop_good ..) ‹_›
    | exact .after (acceptLoop_good ..) ‹_› ‹_›

theorem termFinish_err (st : TermSt) (e : Err) (h : st.finish = .error e) : e ≠ .fuel := by
  unfold TermSt.finish at h
  split at h
  · split at h
    · cases h; simp
    · split at h
      · cases h; simp
      · split at h <;> cases h; simp
  · cases h; simp

theorem readTerm_good (fuel : Nat) (t : Tag) (evs : List Ev) : Good evs fuel (readTerm fuel t evs) := by
  unfold readTerm
  wrap_good termLoop_good fuel t.raw {} evs, termFinish_err

theorem instThenLoop_good (fuel : Nat) (endRaw : String) (rj : Bool) (evs : List Ev) :
    Good evs fuel (instThenLoop fuel endRaw rj evs) := by
  fun_induction instThenLoop fuel endRaw rj evs
  all_goals first
    | exact .zero
    | exact .error (by decide)
    | exact .ok (Nat.lt_succ_self _)
    | exact .step ‹_› (Nat.lt_succ_self _)

theorem toRange_err (o : IOracle) (f : Fam) (rf : String × String) (e : Err) (h : toRange o f rf = .error e) : e ≠ .fuel := by
  unfold toRange at h
  repeat' split at h
  all_goals first | (cases h; simp) | cases h

theorem toRanges_err (o : IOracle) (f : Fam) (l : List (String × String)) (e : Err) (h : toRanges o f l = .error e) :
    e ≠ .fuel := by
  induction l with
  | nil => cases h
  | cons rf rest ih =>
    simp only [toRanges] at h
    split at h
    · cases h; exact toRange_err _ _ _ _ ‹_›
    · split at h
      · cases h; exact ih ‹_›
      · cases h

theorem tryIntoRanges_err (o : IOracle) (f : Fam) (frm : TermFrom) (e : Err) (h : tryIntoRanges o f frm = .error e) :
    e ≠ .fuel := by
  unfold tryIntoRanges at h
  split at h
  · cases h; simp
  · split at h
    · cases h; exact toRanges_err _ _ _ _ ‹_›
    · cases h

theorem addTerm_err (o : IOracle) (st : InstSt) (frm : TermFrom) (e : Err) (h : st.addTerm o frm = .error e) : e ≠ .fuel := by
  unfold InstSt.addTerm at h
  split at h
  · split at h
    · cases h
    · cases h; exact tryIntoRanges_err _ _ _ _ ‹_›
  · split at h
    · split at h
      · cases h
      · cases h; exact tryIntoRanges_err _ _ _ _ ‹_›
    · cases h; simp

theorem instLoop_good (o : IOracle) (fuel : Nat) (endRaw : String) (st : InstSt) (evs : List Ev) :
    Good evs fuel (instLoop o fuel endRaw st evs) := by
  fun_induction instLoop o fuel endRaw st evs
  all_goals first
    | exact .zero
    | exact .error (by decide)
    | exact .ok (Nat.lt_succ_self _)
    | exact .step ‹_› (Nat.lt_succ_self _)
    | exact .failed (readName_good ..) ‹_›
    | exact .after (readName_good ..) ‹_› ‹_›
    | exact .failed (readTerm_good ..) ‹_›
    | exact .after (readTerm_good ..) ‹_› ‹_›
    | exact .error (addTerm_err _ _ _ _ ‹_›)
    | exact .failed (instThenLoop_good ..) ‹_›
    | exact .after (instThenLoop_good ..) ‹_› ‹_›

theorem instFinish_err (st : InstSt) (e : Err) (h : st.finish = .error e) : e ≠ .fuel := by
  unfold InstSt.finish at h
  split at h
  · split at h
    · cases h
    · cases h; simp
  · cases h

theorem readInstalledStmt_good (o : IOracle) : StmtReader.Good (readInstalledStmt o) := by
  intro fuel t evs
  unfold readInstalledStmt
  wrap_good instLoop_good o fuel t.raw {} evs, instFinish_err

theorem readData_total {α} (k : Tag → List Ev → Except Err α) (hk : ∀ t rest, k t rest ≠ .error .fuel) (evs : List Ev) :
    readData k evs ≠ .error .fuel := by
  fun_induction readData k evs <;> simp_all

end Xml
