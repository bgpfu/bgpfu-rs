import Bgpfu.Spec.InstalledGrammar
import Bgpfu.Lemmas.Fetch
import Bgpfu.Lemmas.FetchTotal
/-! Lemmas for the event-level reader of installed policies (C01 read-back,
`Model/FetchInstalled.lean`): text facts about the rendering (`Spec/InstalledGrammar.lean`), the
event-level loops on rendered documents refine a child-level semantics (`…Abs`), the child-level
semantics agrees with the abstract reader `Policy.readInstalled`.

The `policy-options` / `policies` part runs parallel to that of `Lemmas/Fetch.lean` and is not one with it: the two
grammars differ (comments at every level and arbitrary qualified names there, none here and `<policy-options>` optional), `poAbs` and
`posAbs` both stand in statements of Thm/C16 and Thm/C01, and "no name twice" is met in two forms (`nodupNames` of the
specification `select` there, `List.Nodup` on encoded keys in `Policy.readInstalled` here); what the two share is
`refines_of_pass`.

A loop is to be unfolded by `rw` where it stands at the head of the goal: unfolded under a `match` on a written-out
document, the kernel runs the reader on it (`readTerm_render`, `instLoop_body` and `policiesLoop_renderData` pay for that). -/
namespace Xml
open Policy (Range Fam Str Installed)

theorem trim_ofList (l : List Char) : trim (String.ofList l) = String.ofList (trimL l) := by
  simp [trim]

theorem ofList_inj {a b : List Char} (h : String.ofList a = String.ofList b) : a = b :=
  String.ofList_injective h

def IsDec (c : Char) : Prop := ∃ k, k < 10 ∧ c = Char.ofNat (48 + k)

theorem decDigit_isDec (n : Nat) : IsDec (decDigit n) := ⟨n % 10, Nat.mod_lt _ (by decide), rfl⟩

theorem isDec_not_ws {c : Char} (h : IsDec c) : isWs c = false := by
  obtain ⟨k, hk, rfl⟩ := h
  have : ∀ k, k < 10 → isWs (Char.ofNat (48 + k)) = false := by decide
  exact this k hk

theorem isDec_ne_hyphen {c : Char} (h : IsDec c) : (c == '-') = false := by
  obtain ⟨k, hk, rfl⟩ := h
  have : ∀ k, k < 10 → (Char.ofNat (48 + k) == '-') = false := by decide
  exact this k hk

theorem decAux_isDec (fuel n : Nat) (acc : List Char) (h : ∀ c ∈ acc, IsDec c) : ∀ c ∈ decAux fuel n acc, IsDec c := by
  induction fuel generalizing n acc with
  | zero => simpa [decAux] using h
  | succ f ih =>
    have h' : ∀ c ∈ decDigit n :: acc, IsDec c := by
      intro c hc
      rcases List.mem_cons.mp hc with rfl | hc
      · exact decDigit_isDec n
      · exact h c hc
    unfold decAux
    split
    · exact h'
    · exact ih _ _ h'

theorem decAux_ne_nil (fuel n : Nat) (acc : List Char) : decAux (fuel + 1) n acc ≠ [] := by
  induction fuel generalizing n acc with
  | zero => unfold decAux; split <;> simp [decAux]
  | succ f ih =>
    unfold decAux
    split
    · simp
    · exact ih _ _

theorem decL_isDec (n : Nat) : ∀ c ∈ decL n, IsDec c := decAux_isDec _ _ _ (by simp)
theorem decL_ne_nil (n : Nat) : decL n ≠ [] := decAux_ne_nil _ _ _

theorem decL_concat (n : Nat) : ∃ m b, decL n = m ++ [b] ∧ IsDec b := by
  refine ⟨(decL n).dropLast, (decL n).getLast (decL_ne_nil n), (List.dropLast_concat_getLast _).symm, ?_⟩
  exact decL_isDec n _ (List.getLast_mem _)

theorem plrL_trim (lo hi : Nat) : trimL (plrL lo hi) = plrL lo hi := by
  obtain ⟨m, b, hm, hb⟩ := decL_concat hi
  have h0 : isWs '/' = false := by decide
  simp [trimL, trimStart, trimEnd, plrL, lenL, hm, h0, isDec_not_ws hb]

theorem splitOnceL_append (c : Char) (a b : List Char) (h : ∀ x ∈ a, (x == c) = false) :
    splitOnceL c (a ++ c :: b) = some (a, b) := by
  induction a with
  | nil => simp [splitOnceL]
  | cons x xs ih =>
    have hx := h x (by simp)
    simp only [List.cons_append, splitOnceL, hx, Bool.false_eq_true, if_false]
    rw [ih (fun y hy => h y (by simp [hy]))]

theorem plrS_trim (lo hi : Nat) : trim (plrS lo hi) = plrS lo hi := by
  simp [plrS, trim_ofList, plrL_trim]

theorem plrS_split (lo hi : Nat) : splitOnceS '-' (plrS lo hi) = some (lenS lo, lenS hi) := by
  have : splitOnceL '-' (plrL lo hi) = some (lenL lo, lenL hi) := by
    unfold plrL
    apply splitOnceL_append
    intro x hx
    simp only [lenL, List.mem_cons] at hx
    rcases hx with rfl | hx
    · decide
    · exact isDec_ne_hyphen (decL_isDec lo x hx)
  simp [splitOnceS, plrS, lenS, this]

theorem escC_cases (c : Char) : c = '&' ∨ c = '<' ∨ c = '>' ∨ c ≠ '&' ∧ escC c = [c] := by
  by_cases h1 : c = '&'
  · exact .inl h1
  by_cases h2 : c = '<'
  · exact .inr (.inl h2)
  by_cases h3 : c = '>'
  · exact .inr (.inr (.inl h3))
  exact .inr (.inr (.inr ⟨h1, by rw [escC, if_neg h1, if_neg h2, if_neg h3]⟩))

theorem escC_ws {c : Char} (h : isWs c = true) : escC c = [c] := by
  rcases escC_cases c with rfl | rfl | rfl | e
  · exact absurd h (by decide)
  · exact absurd h (by decide)
  · exact absurd h (by decide)
  · exact e.2

theorem escC_ends {c : Char} (h : isWs c = false) :
    (∃ a t, escC c = a :: t ∧ isWs a = false) ∧ ∃ t b, escC c = t ++ [b] ∧ isWs b = false := by
  rcases escC_cases c with rfl | rfl | rfl | e
  · exact ⟨⟨_, _, rfl, by decide⟩, ['&', 'a', 'm', 'p'], ';', rfl, by decide⟩
  · exact ⟨⟨_, _, rfl, by decide⟩, ['&', 'l', 't'], ';', rfl, by decide⟩
  · exact ⟨⟨_, _, rfl, by decide⟩, ['&', 'g', 't'], ';', rfl, by decide⟩
  · exact ⟨⟨c, [], e.2, h⟩, [], c, e.2, h⟩

/-- leading white space can be dropped before or after a substitution that keeps white space and replaces
nothing by a text that begins with white space -/
theorem dropWhile_flatMap {f : Char → List Char} (hws : ∀ c, isWs c = true → f c = [c])
    (hne : ∀ c, isWs c = false → ∃ a t, f c = a :: t ∧ isWs a = false) (l : List Char) :
    (l.flatMap f).dropWhile isWs = (l.dropWhile isWs).flatMap f := by
  induction l with
  | nil => rfl
  | cons c l ih =>
    cases h : isWs c with
    | true => simp [hws c h, h, ih]
    | false =>
      obtain ⟨a, t, e, ha⟩ := hne c h
      simp [e, h, ha]

theorem trimL_escL (l : List Char) : trimL (escL l) = escL (trimL l) := by
  unfold trimL trimStart trimEnd escL
  rw [dropWhile_flatMap (fun _ => escC_ws) (fun _ h => (escC_ends h).1), List.reverse_flatMap,
    dropWhile_flatMap (fun c h => by simp [escC_ws h]) (fun c h => by
      obtain ⟨t, b, e, hb⟩ := (escC_ends h).2
      exact ⟨b, t.reverse, by simp [e], hb⟩), ← List.flatMap_reverse]

theorem trim_escS (s : String) : trim (escS s) = escS (trim s) := by
  simp [escS, trim, trimL_escL]

theorem textEv_inert (name : String) (txt : List Char) : Inert name (textEv txt) := by
  unfold textEv; split <;> simp [Inert]

theorem readText_leafEvs (name : String) (txt : List Char) (tail : List Ev) :
    readText (xtag name txt) (textEv txt ++ .end name :: tail) = .ok (String.ofList txt, tail) :=
  readText_xnm name name _ [] _ tail (textEv_inert name txt)

theorem xtag_is (name : String) (span : List Char) (n : String) : (xtag name span).is XNM n = (name == n) := by
  simp [xtag, xnmTag_is]

theorem xtag_raw (name : String) (span : List Char) : (xtag name span).raw = name := rfl

theorem trimL_PLR : trimL PLR = PLR := by decide +kernel
theorem trim_plr_lit : trim "prefix-length-range" = "prefix-length-range" := by decide +kernel
theorem ofList_PLR : String.ofList PLR = "prefix-length-range" := by decide +kernel

/-- what the reader keeps of a rendered route-filter -/
def rfOf (r : Range) : String × String := (trim (prefixS r.v6 r.addr r.len), plrS r.lo r.hi)

theorem leafEvs_append (name : String) (txt : List Char) (tail : List Ev) :
    leafEvs name txt ++ tail = .start (xtag name txt) :: (textEv txt ++ .end name :: tail) := by
  simp [leafEvs]

theorem choiceValueLoop_value (f : Nat) (txt : List Char) (tail : List Ev) :
    choiceValueLoop (f + 1) (leafEvs "choice-value" txt ++ tail) = .ok (trim (String.ofList txt), tail) := by
  rw [leafEvs_append, choiceValueLoop]
  simp only [xtag_is, beq_self_eq_true, if_true, readText_leafEvs]

/-- the arms of `routeFilterLoop` on the children `filterBody` renders: `read_text` returns the span of the leaf and
the loop goes on behind its end tag -/
theorem routeFilterLoop_address (f : Nat) (e : String) (st : RfSt) (txt : List Char) (tail : List Ev) (h : st.address = none) :
    routeFilterLoop (f + 1) e st (leafEvs "address" txt ++ tail)
      = routeFilterLoop f e { st with address := some (trim (String.ofList txt)) } tail := by
  rw [leafEvs_append, routeFilterLoop]
  simp only [xtag_is, beq_self_eq_true, h, Option.isNone_none, Bool.and_self, if_true, readText_leafEvs]

theorem routeFilterLoop_choice (f : Nat) (e : String) (st : RfSt) (txt : List Char) (tail : List Ev) (h : st.plr = none) :
    routeFilterLoop (f + 2) e st (leafEvs "choice-ident" PLR ++ (leafEvs "choice-value" txt ++ tail))
      = routeFilterLoop (f + 1) e { st with plr := some (trim (String.ofList txt)) } tail := by
  rw [leafEvs_append, routeFilterLoop]
  simp only [xtag_is, String.reduceBEq, beq_self_eq_true, h, Option.isNone_none, Bool.and_self, Bool.false_and, Bool.false_eq_true,
    if_false, if_true, readText_leafEvs, ofList_PLR, trim_plr_lit, bne_self_eq_false, choiceValueLoop_value]

theorem readRouteFilter_render (r : Range) (fuel : Nat) (tail : List Ev) (hf : 3 ≤ fuel) :
    readRouteFilter fuel (xtag "route-filter" (filterInner r)) (filterBody r ++ .end "route-filter" :: tail)
      = .ok (rfOf r, tail) := by
  obtain ⟨f, rfl⟩ : ∃ f, fuel = f + 3 := ⟨fuel - 3, by omega⟩
  have hl : routeFilterLoop (f + 3) "route-filter" {} (filterBody r ++ .end "route-filter" :: tail)
      = .ok (⟨some (rfOf r).1, some (rfOf r).2⟩, tail) := by
    rw [filterBody, List.append_assoc, routeFilterLoop_address _ _ _ _ _ rfl, List.append_assoc,
      routeFilterLoop_choice _ _ _ _ _ rfl, routeFilterLoop]
    simp [rfOf, prefixS, plrS, trim_ofList, plrL_trim]
  rw [readRouteFilter, xtag_raw, hl]
  rfl

theorem filterEvs_length (r : Range) : 8 ≤ (filterEvs r).length := by
  simp [filterEvs, filterBody, leafEvs]; omega

theorem fromLoop_filters (rs : List Range) (fuel : Nat) (st : FromSt) (tail : List Ev)
    (hf : (rs.flatMap filterEvs).length + 1 ≤ fuel) :
    fromLoop fuel "from" st (rs.flatMap filterEvs ++ .end "from" :: tail)
      = .ok ({ st with filters := st.filters ++ rs.map rfOf }, tail) := by
  refine refines_of_pass (L := fun f st => fromLoop f "from" st)
    (abs := fun st rs => .ok { st with filters := st.filters ++ rs.map rfOf }) (WF := fun _ => True)
    (fun r => Nat.lt_of_lt_of_le (by decide) (filterEvs_length r)) (fun f st => ?_)
    (fun f st r rs evs _ hf ih => ?_) rs (fun _ _ => trivial) fuel st hf
  · simp [fromLoop]
  have hr := readRouteFilter_render r f evs (by have := filterEvs_length r; omega)
  simp only [filterEvs, List.cons_append, List.append_assoc, List.nil_append, fromLoop, xtag_is,
    String.reduceBEq, Bool.false_and, Bool.false_eq_true, if_false, if_true, hr, ih, List.map_cons]

/-- child-level semantics of `TermFrom::borrowed_read_xml` on a rendered `<from>` -/
def fromAbs (t : TTerm) : Except Err TermFrom :=
  match t.family with
  | none => .error .missing
  | some f => .ok { family := trim (escS f), filters := t.filters.map rfOf }

theorem fromBody_length (t : TTerm) : (t.filters.flatMap filterEvs).length ≤ (fromBody t).length := by
  simp [fromBody]

theorem readTermFrom_render (t : TTerm) (fuel : Nat) (tail : List Ev) (hf : (fromBody t).length + 1 ≤ fuel) :
    readTermFrom fuel (xtag "from" (fromInner t)) (fromBody t ++ .end "from" :: tail) = liftR (fromAbs t) tail := by
  unfold readTermFrom fromAbs
  simp only [xtag_raw]
  cases hfam : t.family with
  | none =>
    have e : fromBody t = t.filters.flatMap filterEvs := by simp [fromBody, familyEvs, hfam]
    rw [e] at hf ⊢
    rw [fromLoop_filters _ _ _ _ hf]
    simp [FromSt.finish]
  | some f =>
    have e : fromBody t = leafEvs "family" (escL f.toList) ++ t.filters.flatMap filterEvs := by
      simp [fromBody, familyEvs, hfam]
    rw [e] at hf ⊢
    simp only [leafEvs, List.length_append, List.length_cons, List.cons_append] at hf
    obtain ⟨g, rfl⟩ := Nat.exists_eq_add_one.mpr (Nat.zero_lt_of_lt hf)
    simp only [leafEvs, List.cons_append, List.append_assoc, List.nil_append, fromLoop, xtag_is, beq_self_eq_true,
      Option.isNone_none, Bool.and_self, if_true, readText_leafEvs]
    rw [fromLoop_filters _ _ _ _ (by omega)]
    simp [FromSt.finish, escS, trim_ofList]

/-- child-level semantics of `Term::borrowed_read_xml` on a rendered term -/
def termAbs (t : TTerm) : Except Err TermFrom :=
  match t.family with
  | none => .error .missing
  | some f =>
    if !t.accept then .error .missing
    else if escS t.name != trim (escS f) then .error .other
    else .ok { family := trim (escS f), filters := t.filters.map rfOf }

theorem fromEvs_length (t : TTerm) : (fromEvs t).length = if t.hasFrom then (fromBody t).length + 2 else 0 := by
  unfold fromEvs; split <;> simp

theorem readTerm_render (t : TTerm) (fuel : Nat) (tail : List Ev) (hf : (termBody t).length + 1 ≤ fuel) :
    readTerm fuel (termTag t) (termBody t ++ .end "term" :: tail) = liftR (termAbs t) tail := by
  unfold readTerm
  simp only [termBody, leafEvs, List.length_append, List.length_cons, fromEvs_length] at hf
  have hraw : (termTag t).raw = "term" := rfl
  rw [hraw]
  by_cases hfr : t.hasFrom = true
  · -- `<from>` present
    simp only [hfr, if_true] at hf
    have hfrom := fun fl tl h => readTermFrom_render t fl tl h
    cases hacc : t.accept with
    | true =>
      simp only [hacc, if_true, thenEvs, List.length_cons, List.length_nil] at hf
      -- `6` (below `3`, `5`, `2`): the iterations that run, one of `termLoop` per child and for the end tag, two of
      -- `acceptLoop` for `<then>`; `simp` unfolds a loop once per successor it sees, and `hf` grants more than that
      obtain ⟨f, rfl⟩ : ∃ f, fuel = f + 6 := ⟨fuel - 6, by omega⟩
      simp only [termBody, leafEvs, fromEvs, hfr, hacc, if_true, thenEvs, List.cons_append, List.append_assoc,
        List.nil_append, termLoop, xtag_is, String.reduceBEq, beq_self_eq_true, Option.isNone_none, Option.isNone_some,
        Bool.and_self, Bool.and_true, Bool.false_eq_true, if_false, readText_leafEvs,
        xtag_raw, Bool.not_false]
      rw [hfrom (f + 4) _ (by omega)]
      unfold fromAbs termAbs
      cases hfam : t.family with
      | none => simp
      | some fm =>
        simp only [liftR_ok, termLoop, xtag_is, String.reduceBEq, beq_self_eq_true, Option.isNone_some,
          Bool.false_eq_true, if_false, Bool.not_false, Bool.and_self, if_true, xtag_raw,
          acceptLoop, emptyTag, xnmTag_is, hacc, Bool.not_true, TermSt.finish, escS]
        by_cases he : String.ofList (escL t.name.toList) = trim (String.ofList (escL fm.toList)) <;> simp [he]
    | false =>
      simp only [hacc, Bool.false_eq_true, if_false, List.length_nil] at hf
      obtain ⟨f, rfl⟩ : ∃ f, fuel = f + 3 := ⟨fuel - 3, by omega⟩
      simp only [termBody, leafEvs, fromEvs, hfr, hacc, if_true, Bool.false_eq_true, if_false, List.cons_append,
        List.append_assoc, List.nil_append, List.append_nil, termLoop, xtag_is, String.reduceBEq, beq_self_eq_true,
        Option.isNone_none, Option.isNone_some, Bool.and_self, Bool.and_true, Bool.false_and,
        readText_leafEvs, xtag_raw]
      rw [hfrom (f + 1) _ (by omega)]
      unfold fromAbs termAbs
      cases hfam : t.family with
      | none => simp
      | some fm =>
        simp [termLoop, TermSt.finish, hacc]
  · -- no `<from>`: no family, no filters
    have hfr' : t.hasFrom = false := by simpa using hfr
    have hfam : t.family = none := by
      cases h : t.family with
      | none => rfl
      | some x => simp [TTerm.hasFrom, h] at hfr'
    simp only [hfr', Bool.false_eq_true, if_false] at hf
    unfold termAbs
    rw [hfam]
    cases hacc : t.accept with
    | true =>
      simp only [hacc, if_true, thenEvs, List.length_cons, List.length_nil] at hf
      obtain ⟨f, rfl⟩ : ∃ f, fuel = f + 5 := ⟨fuel - 5, by omega⟩
      simp [termBody, leafEvs, fromEvs, hfr', hacc, thenEvs, termLoop, xtag_is, readText_leafEvs, xtag_raw,
        acceptLoop, emptyTag, xnmTag_is, TermSt.finish]
    | false =>
      simp only [hacc, Bool.false_eq_true, if_false, List.length_nil] at hf
      obtain ⟨f, rfl⟩ : ∃ f, fuel = f + 2 := ⟨fuel - 2, by omega⟩
      simp [termBody, leafEvs, fromEvs, hfr', hacc, termLoop, xtag_is, readText_leafEvs, TermSt.finish]

/-- child-level semantics of the term arm of `Maybe<Installed>::read_xml` over the terms of a policy -/
def termsAbs (o : IOracle) : InstSt → List TTerm → Except Err InstSt
  | st, [] => .ok st
  | st, t :: ts =>
    match termAbs t with
    | .error e => .error e
    | .ok frm =>
      match st.addTerm o frm with
      | .error e => .error e
      | .ok st' => termsAbs o st' ts

/-- child-level semantics of `Maybe<Installed>::read_xml` on a rendered policy -/
def policyAbs (o : IOracle) (p : TPolicy) : Except Err (Option (String × Installed)) :=
  match termsAbs o { name := some p.name } p.terms with
  | .error e => .error e
  | .ok st => ({ st with reject := p.reject } : InstSt).finish

theorem addTerm_fields (o : IOracle) (st st' : InstSt) (frm : TermFrom) (h : st.addTerm o frm = .ok st') :
    st'.reject = st.reject ∧ st'.name = st.name := by
  unfold InstSt.addTerm at h
  split at h
  · split at h
    · simp only [Except.ok.injEq] at h; subst h; exact ⟨rfl, rfl⟩
    · cases h
  · split at h
    · split at h
      · simp only [Except.ok.injEq] at h; subst h; exact ⟨rfl, rfl⟩
      · cases h
    · cases h

theorem termEvs_length (t : TTerm) : (termEvs t).length = (termBody t).length + 2 := by
  simp [termEvs]

theorem instLoop_body (o : IOracle) (ts : List TTerm) (rj : Bool) (fuel : Nat) (st : InstSt) (tail : List Ev)
    (hst : st.reject = false)
    (hf : (ts.flatMap termEvs).length + (if rj then thenEvs "reject" REJECT else []).length + 1 ≤ fuel) :
    instLoop o fuel "policy-statement" st
        (ts.flatMap termEvs ++ ((if rj then thenEvs "reject" REJECT else []) ++ .end "policy-statement" :: tail))
      = match termsAbs o st ts with
        | .error e => .error e
        | .ok st' => .ok ({ st' with reject := rj }, tail) := by
  induction ts generalizing fuel st with
  | nil =>
    cases rj with
    | false =>
      obtain ⟨f, rfl⟩ := Nat.exists_eq_add_one.mpr (Nat.zero_lt_of_lt hf)
      cases st
      simp_all [instLoop, termsAbs]
    | true =>
      simp only [if_true, thenEvs, List.length_cons, List.length_nil, List.flatMap_nil] at hf
      obtain ⟨f, rfl⟩ : ∃ f, fuel = f + 4 := ⟨fuel - 4, by omega⟩
      simp [instLoop, termsAbs, thenEvs, xtag_is, hst, instThenLoop, emptyTag, xnmTag_is, xtag_raw]
  | cons t ts ih =>
    obtain ⟨f, rfl⟩ := Nat.exists_eq_add_one.mpr (Nat.zero_lt_of_lt hf)
    simp only [List.flatMap_cons, List.length_append, termEvs_length] at hf
    have hr := readTerm_render t f (ts.flatMap termEvs ++
      ((if rj then thenEvs "reject" REJECT else []) ++ .end "policy-statement" :: tail)) (by omega)
    have his1 : (termTag t).is XNM "name" = false := by simp [termTag, xtag_is]
    have his2 : (termTag t).is XNM "term" = true := by simp [termTag, xtag_is]
    simp only [List.flatMap_cons, termEvs, List.cons_append, List.append_assoc, List.nil_append, instLoop, his1, his2,
      Bool.false_and, Bool.false_eq_true, if_false, if_true, hr, termsAbs]
    cases hta : termAbs t with
    | error e => simp
    | ok frm =>
      simp only [liftR_ok]
      cases had : st.addTerm o frm with
      | error e => simp
      | ok st' =>
        simp only []
        exact ih f st' (by rw [(addTerm_fields o st st' frm had).1]; exact hst) (by omega)

theorem policyBody_length (p : TPolicy) :
    (policyBody p).length = (textEv (escL p.name.toList)).length + 2 + (p.terms.flatMap termEvs).length
      + (if p.reject then thenEvs "reject" REJECT else []).length := by
  simp [policyBody, leafEvs]; omega

theorem readInstalledStmt_render (o : IOracle) (hU : ∀ s, o.unescape (escS s) = some s) (p : TPolicy) (fuel : Nat)
    (tail : List Ev) (hf : (policyBody p).length + 1 ≤ fuel) :
    readInstalledStmt o fuel (policyTag p) (policyBody p ++ .end "policy-statement" :: tail)
      = liftR (policyAbs o p) tail := by
  rw [policyBody_length] at hf
  obtain ⟨f, rfl⟩ := Nat.exists_eq_add_one.mpr (Nat.zero_lt_of_lt hf)
  have hraw : (policyTag p).raw = "policy-statement" := rfl
  have hu : o.unescape (String.ofList (escL p.name.toList)) = some p.name := hU p.name
  rw [readInstalledStmt, policyAbs]
  simp only [hraw, policyBody, leafEvs, List.cons_append, List.append_assoc, List.nil_append, instLoop, xtag_is,
    beq_self_eq_true, Option.isNone_none, Bool.and_self, if_true, readName, readText_leafEvs, hu]
  rw [instLoop_body o p.terms p.reject f _ tail rfl (by omega)]
  cases termsAbs o { name := some p.name } p.terms with
  | error e => simp
  | ok st => simp only [liftR]; cases (InstSt.finish { st with reject := p.reject }) <;> rfl

/-- child-level semantics of `Policies<Installed>::read_xml` on the rendered policies -/
def posAbs (o : IOracle) (map : List (String × Installed)) : List TPolicy → Except Err (List (String × Installed))
  | [] => .ok map
  | p :: ps =>
    match policyAbs o p with
    | .error e => .error e
    | .ok none => posAbs o map ps
    | .ok (some (n, i)) => if map.any (·.1 == n) then .error .other else posAbs o (map ++ [(n, i)]) ps

theorem policyEvs_length (p : TPolicy) : (policyEvs p).length = (policyBody p).length + 2 := by
  simp [policyEvs]

theorem policyOptionsLoop_policies (o : IOracle) (hU : ∀ s, o.unescape (escS s) = some s) (ps : List TPolicy)
    (fuel : Nat) (map : List (String × Installed)) (rest : List Ev) (hf : (ps.flatMap policyEvs).length + 1 ≤ fuel) :
    policyOptionsLoop (readInstalledStmt o) fuel "policy-options" map
        (ps.flatMap policyEvs ++ .end "policy-options" :: rest) = liftR (posAbs o map ps) rest := by
  refine refines_of_pass (L := fun f map => policyOptionsLoop (readInstalledStmt o) f "policy-options" map)
    (abs := posAbs o) (WF := fun _ => True) (fun p => by rw [policyEvs_length]; omega) (fun f map => ?_)
    (fun f map p ps tail _ hf ih => ?_) ps (fun _ _ => trivial) fuel map hf
  · simp [policyOptionsLoop, posAbs]
  have hr := readInstalledStmt_render o hU p f tail (by rw [policyEvs_length] at hf; omega)
  have his : (policyTag p).is XNM "policy-statement" = true := by simp [policyTag, xtag_is]
  simp only [policyEvs, List.cons_append, List.append_assoc, List.nil_append, policyOptionsLoop, his, if_true, hr, posAbs]
  rcases policyAbs o p with e | _ | ⟨n, i⟩ <;> simp only [liftR_ok, liftR_error, apply_ite (liftR · rest), ih]

theorem policiesLoop_renderData (o : IOracle) (hU : ∀ s, o.unescape (escS s) = some s) (c : TCfg) (rest : List Ev)
    (fuel : Nat) (hf : (renderData c).length + 1 ≤ fuel) :
    policiesLoop (readInstalledStmt o) fuel "data" none (renderData c ++ rest) = posAbs o [] c := by
  have hc1 : (confTag c).is XNM "configuration" = true := by simp [confTag, xnmTag_is]
  have hc2 : (confTag c).raw = "configuration" := rfl
  cases c with
  | nil =>
    simp only [renderData, confBody, List.isEmpty_nil, if_true, List.length_cons, List.length_append, List.length_nil] at hf
    obtain ⟨f, rfl⟩ : ∃ f, fuel = f + 3 := ⟨fuel - 3, by omega⟩
    simp [renderData, confBody, policiesLoop, configurationLoop, hc1, hc2, posAbs]
  | cons p ps =>
    have hne : (p :: ps).isEmpty = false := rfl
    simp only [renderData, confBody, hne, Bool.false_eq_true, if_false, List.length_cons, List.length_append,
      List.length_nil] at hf
    obtain ⟨f, rfl⟩ : ∃ f, fuel = f + 4 := ⟨fuel - 4, by omega⟩
    have hpo := policyOptionsLoop_policies o hU (p :: ps) (f + 2) []
      (.end "configuration" :: .end "data" :: rest) (by omega)
    simp only [renderData, confBody, hne, Bool.false_eq_true, if_false, List.cons_append, List.append_assoc,
      List.nil_append, policiesLoop, hc1, hc2, Option.isNone_none, Bool.and_self, if_true, configurationLoop, xtag_is,
      beq_self_eq_true, Bool.not_false, xtag_raw, hpo]
    cases posAbs o [] (p :: ps) with
    | error e => simp
    | ok m => simp [configurationLoop, policiesLoop]

theorem readInstalledDoc_refines (o : IOracle) (hU : ∀ s, o.unescape (escS s) = some s) (c : TCfg) :
    readInstalledDoc o (renderGetConfig c) = posAbs o [] c := by
  have h1 : (rpcTag c).lname = "rpc-reply" := rfl
  have h2 : (dataTag c).lname = "data" := rfl
  have h3 : (dataTag c).raw = "data" := rfl
  simp only [readInstalledDoc, renderGetConfig, readData, h1, h2, h3, String.reduceBEq, Bool.false_eq_true, if_false,
    beq_self_eq_true, if_true, readInstalledEv]
  exact policiesLoop_renderData o hU c _ _ (by simp)

/-- the reader of one route-filter text is the abstract one, up to the error class: both check family, prefix
length, address width, the two bounds and the non-empty range, in this order -/
theorem toRange_readRange (o : IOracle) (f : Fam) (r : Range) (hr : RangeOK o r) :
    toRange o f (rfOf r) = (Policy.readRange f r).mapError fun _ => .other := by
  simp only [toRange, rfOf, hr.pfx, plrS_split, hr.lo, hr.hi, withLengthRange, Policy.readRange, Except.mapError]
  by_cases h1 : r.v6 = f.isV6
  case neg => simp [h1]
  by_cases h2 : r.len ≤ f.bits
  case neg => simp [h1, h2, Nat.not_le.mp h2]
  by_cases h3 : r.addr < 2 ^ f.bits
  case neg => simp [h1, h2, h3, Nat.not_lt.mp h3]
  by_cases h4 : r.lo ≤ f.bits
  case neg => simp [h1, h2, h3, h4, Nat.not_le.mp h4]
  by_cases h5 : r.hi ≤ f.bits
  case neg => simp [h1, h2, h3, h4, h5, Nat.not_le.mp h5]
  have h2' := Nat.not_lt.mpr h2
  have h3' := Nat.not_le.mpr h3
  have h4' := Nat.not_lt.mpr h4
  have h5' := Nat.not_lt.mpr h5
  by_cases h6 : max r.len r.lo ≤ r.hi <;> simp [h1, h2, h3, h4, h5, h6, h2', h3', h4', h5']

theorem toRanges_readRanges (o : IOracle) (f : Fam) (rs : List Range) (hrs : ∀ r ∈ rs, RangeOK o r) :
    toRanges o f (rs.map rfOf) = (Policy.readRanges f rs).mapError fun _ => .other := by
  induction rs with
  | nil => rfl
  | cons r rs ih =>
    rw [List.map_cons, toRanges, toRange_readRange o f r (hrs r (by simp)), ih fun x hx => hrs x (by simp [hx]),
      Policy.readRanges]
    cases Policy.readRange f r with
    | error e => rfl
    | ok r' => cases Policy.readRanges f rs <;> rfl

/-- the part of the reader state the abstract reader tracks -/
def vw (st : InstSt) : Option (List Range) × Option (List Range) := (st.v4, st.v6)

theorem escS_inj (o : IOracle) (hU : ∀ s, o.unescape (escS s) = some s) {a b : String} (h : escS a = escS b) : a = b := by
  have := hU a
  rw [h, hU b] at this
  exact (Option.some.inj this).symm

theorem escS_inet : escS "inet" = "inet" := by decide +kernel
theorem escS_inet6 : escS "inet6" = "inet6" := by decide +kernel

/-- what the agreement proof needs of the oracles and the encoding, relative to a set `S` of strings -/
structure Ctx (o : IOracle) (enc : String → Str) (S : List String) : Prop where
  unescape : ∀ s, o.unescape (escS s) = some s
  inj : ∀ a ∈ S, ∀ b ∈ S, enc a = enc b → a = b
  inet : enc "inet" = Policy.inet
  inet6 : enc "inet6" = Policy.inet6
  m4 : "inet" ∈ S
  m6 : "inet6" ∈ S

/-- what the agreement proof needs of a term, relative to the same `S` -/
structure TermOK (o : IOracle) (enc : String → Str) (S : List String) (t : TTerm) : Prop where
  name : t.name ∈ S
  fam : ∀ fm, t.family = some fm → trim fm ∈ S ∧ enc (trim fm) = Policy.trimB (enc fm)
  ranges : ∀ r ∈ t.filters, RangeOK o r

/-- on `S` the reader's comparison of escaped texts is the abstract reader's comparison of byte strings -/
theorem Ctx.beq {o : IOracle} {enc : String → Str} {S : List String} (hX : Ctx o enc S) {x y : String}
    (hx : x ∈ S) (hy : y ∈ S) : (escS x == escS y) = decide (enc x = enc y) := by
  by_cases h : x = y
  · simp [h]
  · have h1 : escS x ≠ escS y := fun e => h (escS_inj o hX.unescape e)
    have h2 : enc x ≠ enc y := fun e => h (hX.inj _ hx _ hy e)
    simp [h1, h2]

theorem termsAbs_readTerms (o : IOracle) (enc : String → Str) (S : List String) (hX : Ctx o enc S) (ts : List TTerm)
    (hts : ∀ t ∈ ts, TermOK o enc S t) (st : InstSt) :
    (termsAbs o st ts).toOption.map vw = (Policy.readTerms (ts.map (TTerm.toJ enc)) st.v4 st.v6).toOption := by
  induction ts generalizing st with
  | nil => simp [termsAbs, Policy.readTerms, vw, Except.toOption]
  | cons t ts ih =>
    have ht := hts t (by simp)
    have ih := fun st => ih (fun x hx => hts x (by simp [hx])) st
    simp only [List.map_cons, TTerm.toJ, termsAbs, Policy.readTerms, termAbs, Policy.readTerm]
    cases hfam : t.family with
    | none => by_cases hacc : t.accept = true <;> simp [hacc, Except.toOption]
    | some fm =>
      by_cases hacc : t.accept = true
      case neg => simp [hacc, Except.toOption]
      obtain ⟨hmS, hmt⟩ := ht.fam fm hfam
      simp only [hacc, Option.map_some, Bool.not_true, Bool.false_eq_true, if_false, trim_escS, ← hmt]
      rw [bne, hX.beq ht.name hmS]
      by_cases hn : enc t.name = enc (trim fm)
      case neg => simp [hn, Ne.symm hn, Except.toOption]
      have h4 := hX.beq hmS hX.m4
      have h6 := hX.beq hmS hX.m6
      rw [escS_inet, hX.inet] at h4
      rw [escS_inet6, hX.inet6] at h6
      simp only [hn, decide_true, Bool.not_true, Bool.false_eq_true, if_false, ne_eq, not_true, InstSt.addTerm, h4, h6,
        tryIntoRanges, afiMatches, toRanges_readRanges o _ t.filters ht.ranges]
      have ne : Policy.inet ≠ Policy.inet6 := by decide
      by_cases h4' : enc (trim fm) = Policy.inet
      · -- the `inet` slot taken or free, the ranges rejected or read: only "free and read" goes on
        cases hv : st.v4 with
        | some _ => cases Policy.readRanges .v4 t.filters <;> simp [h4', ne, Except.toOption]
        | none =>
          cases Policy.readRanges .v4 t.filters with
          | error _ => simp [h4', Except.mapError, Except.toOption]
          | ok rs => simp [h4', ih, Except.mapError]
      by_cases h6' : enc (trim fm) = Policy.inet6
      · cases hv : st.v6 with
        | some _ => cases Policy.readRanges .v6 t.filters <;> simp [h6', Ne.symm ne, Except.toOption]
        | none =>
          cases Policy.readRanges .v6 t.filters with
          | error _ => simp [h6', Ne.symm ne, Except.mapError, Except.toOption]
          | ok rs => simp [h6', Ne.symm ne, ih, Except.mapError]
      simp [h4', h6', Except.toOption]

theorem termsAbs_name (o : IOracle) (ts : List TTerm) (st st' : InstSt) (h : termsAbs o st ts = .ok st') :
    st'.name = st.name := by
  induction ts generalizing st with
  | nil => cases h; rfl
  | cons t ts ih =>
    simp only [termsAbs] at h
    split at h
    · cases h
    · split at h
      · cases h
      · exact (ih _ h).trans (addTerm_fields o st _ _ ‹_›).2

def encN (enc : String → Str) (x : String × Installed) : Str × Installed := (enc x.1, x.2)

theorem encNames_eq (enc : String → Str) (l : List (String × Installed)) : encNames enc l = l.map (encN enc) := rfl

/-- the terms only fill the two range sets: name and default reject are the policy's own -/
theorem policyAbs_eq (o : IOracle) (p : TPolicy) :
    policyAbs o p = (termsAbs o { name := some p.name } p.terms).map fun st =>
      if p.reject then some (p.name, ⟨st.v4.getD [], st.v6.getD []⟩) else none := by
  unfold policyAbs
  cases h : termsAbs o { name := some p.name } p.terms with
  | error e => rfl
  | ok st =>
    have hn := termsAbs_name o p.terms _ st h
    cases hr : p.reject <;> simp [InstSt.finish, hn, Except.map]

theorem policyAbs_readPolicy (o : IOracle) (enc : String → Str) (S : List String) (hX : Ctx o enc S) (p : TPolicy)
    (hts : ∀ t ∈ p.terms, TermOK o enc S t) :
    (policyAbs o p).toOption.map (Option.map (encN enc))
      = (Policy.readPolicy .fixed (p.toJ enc).1 (p.toJ enc).2).toOption := by
  have h := termsAbs_readTerms o enc S hX p.terms hts { name := some p.name }
  rw [policyAbs_eq]
  unfold Policy.readPolicy
  simp only [TPolicy.toJ]
  generalize termsAbs o { name := some p.name } p.terms = T at h ⊢
  generalize Policy.readTerms (p.terms.map (TTerm.toJ enc)) none none = R at h ⊢
  cases T <;> cases R <;> simp [Except.toOption, vw] at h
  · rfl
  · subst h
    by_cases hr : p.reject = true <;> simp [hr, Except.map, Except.toOption, encN, Policy.nameOf, Policy.Cfg.fixed]

theorem keys_encNames (enc : String → Str) (l : List (String × Installed)) :
    Policy.keys (encNames enc l) = l.map fun x => enc x.1 := by
  simp [Policy.keys, encNames]

theorem policyAbs_name (o : IOracle) (p : TPolicy) (n : String) (i : Installed)
    (h : policyAbs o p = .ok (some (n, i))) : n = p.name := by
  rw [policyAbs_eq] at h
  generalize termsAbs o { name := some p.name } p.terms = T at h
  cases T with
  | error e => cases h
  | ok st =>
    simp only [Except.map, Except.ok.injEq] at h
    split at h <;> simp at h
    exact h.1.symm

/-- moving a key from the list that is checked to the list it is checked against -/
theorem nodup_disjoint_cons {α} (K R : List α) (b : α) (hb : b ∉ K) :
    (R.Nodup ∧ ∀ k ∈ R, k ∉ K ++ [b]) ↔ ((b :: R).Nodup ∧ ∀ k ∈ b :: R, k ∉ K) := by
  simp only [List.nodup_cons, List.mem_append, List.mem_singleton, List.forall_mem_cons, not_or]
  exact ⟨fun ⟨h1, h2⟩ => ⟨⟨fun h => (h2 _ h).2 rfl, h1⟩, hb, fun k hk => (h2 k hk).1⟩,
    fun ⟨⟨h1, h2⟩, _, h4⟩ => ⟨h2, fun k hk => ⟨h4 k hk, fun e => h1 (e ▸ hk)⟩⟩⟩

/- `readInstalledDoc_abs` uses the case `map = []`. The right-hand side is generalised for the induction: with policies already in `map`, the abstract reader's check "no name twice" becomes "no name twice among
those still to come, and none of them in `map`". -/
theorem posAbs_readAll (o : IOracle) (enc : String → Str) (S : List String) (hX : Ctx o enc S) (c : TCfg)
    (hps : ∀ p ∈ c, p.name ∈ S ∧ ∀ t ∈ p.terms, TermOK o enc S t)
    (map : List (String × Installed)) (hmapS : ∀ x ∈ map, x.1 ∈ S) :
    (posAbs o map c).toOption.map (encNames enc) =
      (match Policy.readAll .fixed (c.toJ enc) with
       | .error _ => none
       | .ok l =>
         if (Policy.keys l).Nodup ∧ ∀ k ∈ Policy.keys l, k ∉ Policy.keys (encNames enc map)
         then some (encNames enc map ++ l) else none) := by
  induction c generalizing map with
  | nil => simp [posAbs, TCfg.toJ, Policy.readAll, Except.toOption, Policy.keys]
  | cons p ps ih =>
    have hp := policyAbs_readPolicy o enc S hX p (hps p (by simp)).2
    have hpS : p.name ∈ S := (hps p (by simp)).1
    have ih := fun map h => ih (fun q hq => hps q (by simp [hq])) map h
    have hc : TCfg.toJ enc (p :: ps) = ((p.toJ enc).1, (p.toJ enc).2) :: TCfg.toJ enc ps := rfl
    rw [hc, Policy.readAll]
    generalize Policy.readPolicy .fixed (p.toJ enc).1 (p.toJ enc).2 = R at hp ⊢
    simp only [posAbs]
    cases hpa : policyAbs o p with
    | error e =>
      simp only [hpa, Except.toOption, Option.map_none] at hp
      cases R with
      | error e' => rfl
      | ok r => cases hp
    | ok v =>
      cases R with
      | error e' => simp [hpa, Except.toOption] at hp
      | ok r =>
        simp only [hpa, Except.toOption, Option.map_some, Option.some.injEq] at hp
        subst hp
        cases v with
        | none =>
          simp only [Option.map_none]
          rw [ih map hmapS]
          cases Policy.readAll .fixed (TCfg.toJ enc ps) <;> rfl
        | some ni =>
          obtain ⟨n, i⟩ := ni
          have hnS : n ∈ S := policyAbs_name o p n i hpa ▸ hpS
          have hmem : map.any (·.1 == n) = decide (enc n ∈ Policy.keys (encNames enc map)) := by
            rw [keys_encNames, Bool.eq_iff_iff]
            simp only [List.any_eq_true, beq_iff_eq, decide_eq_true_eq, List.mem_map]
            exact ⟨fun ⟨x, hx, e⟩ => ⟨x, hx, e ▸ rfl⟩, fun ⟨x, hx, e⟩ => ⟨x, hx, hX.inj _ (hmapS x hx) _ hnS e⟩⟩
          have hS' : ∀ x ∈ map ++ [(n, i)], x.1 ∈ S := by
            simp only [List.mem_append, List.mem_singleton]
            rintro x (h | rfl)
            · exact hmapS x h
            · exact hnS
          have e1 : encNames enc (map ++ [(n, i)]) = encNames enc map ++ [(enc n, i)] := by simp [encNames]
          simp only [Option.map_some, encN, hmem]
          by_cases hin : enc n ∈ Policy.keys (encNames enc map)
          · cases Policy.readAll .fixed (TCfg.toJ enc ps) with
            | error e => simp [hin, Except.toOption]
            | ok rs =>
              simp only [hin, decide_true, if_true, Except.toOption, Option.map_none]
              exact (if_neg fun h => h.2 _ (by simp [Policy.keys]) hin).symm
          · simp only [hin, decide_false, Bool.false_eq_true, if_false]
            rw [ih _ hS', e1]
            cases Policy.readAll .fixed (TCfg.toJ enc ps) with
            | error e => rfl
            | ok rs =>
              simp only [List.append_assoc, List.singleton_append, Policy.keys, List.map_append, List.map_cons, List.map_nil]
              exact ite_cond_congr (propext (nodup_disjoint_cons _ _ _ hin))

theorem mem_strings_policy {c : TCfg} {p : TPolicy} (hp : p ∈ c) {x : String} (hx : x ∈ p.strings) : x ∈ c.strings := by
  simp only [TCfg.strings, List.mem_cons, List.mem_flatMap]
  exact Or.inr (Or.inr ⟨p, hp, hx⟩)

theorem readInstalledDoc_abs (o : IOracle) (enc : String → Str) (c : TCfg) (hC : o.Consistent c) (hE : EncOK enc c) :
    (readInstalledDoc o (renderGetConfig c)).toOption.map (encNames enc)
      = (Policy.readInstalled .fixed (c.toJ enc)).toOption := by
  have hX : Ctx o enc c.strings :=
    ⟨hC.unescape, hE.inj, hE.inet, hE.inet6, by simp [TCfg.strings], by simp [TCfg.strings]⟩
  have hps : ∀ p ∈ c, p.name ∈ c.strings ∧ ∀ t ∈ p.terms, TermOK o enc c.strings t := by
    intro p hp
    refine ⟨mem_strings_policy hp (by simp [TPolicy.strings]), fun t ht => ?_⟩
    have hts : ∀ x ∈ t.strings, x ∈ c.strings := by
      intro x hx
      apply mem_strings_policy hp
      simp only [TPolicy.strings, List.mem_cons, List.mem_flatMap]
      exact Or.inr ⟨t, ht, hx⟩
    refine ⟨hts _ (by simp [TTerm.strings]), ?_, ?_⟩
    · intro fm hfm
      refine ⟨hts _ (by simp [TTerm.strings, hfm]), hE.trim fm ?_⟩
      simp only [TCfg.families, List.mem_flatMap, List.mem_filterMap]
      exact ⟨p, hp, t, ht, hfm⟩
    · intro r hr
      apply hC.ranges
      simp only [TCfg.ranges, List.mem_flatMap]
      exact ⟨p, hp, t, ht, hr⟩
  rw [readInstalledDoc_refines o hC.unescape,
    posAbs_readAll o enc c.strings hX c hps [] (by simp)]
  unfold Policy.readInstalled
  cases Policy.readAll .fixed (TCfg.toJ enc c) with
  | error e => rfl
  | ok l =>
    simp only [encNames, Policy.keys, List.map_nil, List.nil_append, List.not_mem_nil, not_false_eq_true, implies_true,
      and_true]
    split <;> simp [*, Except.toOption]

/-! ### the `unescape` hypothesis is satisfiable: a left inverse of the escaping -/

def unescAux : Nat → List Char → List Char
  | 0, _ => []
  | _ + 1, [] => []
  | n + 1, c :: r =>
    if c = '&' then
      (match r with
       | 'a' :: 'm' :: 'p' :: ';' :: r' => '&' :: unescAux n r'
       | 'l' :: 't' :: ';' :: r' => '<' :: unescAux n r'
       | 'g' :: 't' :: ';' :: r' => '>' :: unescAux n r'
       | _ => c :: unescAux n r)
    else c :: unescAux n r

def unescS (s : String) : String := String.ofList (unescAux s.toList.length s.toList)

theorem escC_length_pos (c : Char) : 1 ≤ (escC c).length := by
  rcases escC_cases c with rfl | rfl | rfl | e
  · decide
  · decide
  · decide
  · exact e.2 ▸ Nat.le_refl 1

theorem unescAux_escL (l : List Char) (n : Nat) (h : (escL l).length ≤ n) : unescAux n (escL l) = l := by
  induction l generalizing n with
  | nil => cases n <;> simp [escL, unescAux]
  | cons c l ih =>
    have e : escL (c :: l) = escC c ++ escL l := by simp [escL]
    rw [e] at h ⊢
    have hl : (escL l).length + 1 ≤ n := by
      have := escC_length_pos c
      simp only [List.length_append] at h
      omega
    obtain ⟨m, rfl⟩ := Nat.exists_eq_add_one.mpr (Nat.zero_lt_of_lt hl)
    have ihm := ih m (by omega)
    rcases escC_cases c with rfl | rfl | rfl | ⟨h1, ec⟩
    · exact congrArg ('&' :: ·) ihm
    · exact congrArg ('<' :: ·) ihm
    · exact congrArg ('>' :: ·) ihm
    · rw [ec, List.singleton_append]
      unfold unescAux
      rw [if_neg h1, ihm]

theorem unescS_escS (s : String) : unescS (escS s) = s := by
  simp [unescS, escS, unescAux_escL]

end Xml
