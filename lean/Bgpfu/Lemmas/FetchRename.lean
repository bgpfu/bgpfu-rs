import Bgpfu.Model.FetchInstalled
import Bgpfu.Lemmas.Rename
/-! The loops of the agent's configuration readers (`Model/Fetch.lean`, `Model/FetchInstalled.lean`) commute with
every injective renaming of raw names (C13), one lemma per loop. In each, `fun_induction` has one case per arm of
the loop, and the renaming computes through every arm that names its event. The last arm, `| _ => .error .unexpected`,
does not: there the event is still a variable (known only not to match the arms above), so `renameEv` is stuck until
the event is split. That arm is the case picked out by its number (`caseNN`; Lean numbers the cases in the order
of the arms, so the number moves when an arm is added). After the split, the events the arm covers compute (`rfl`);
the others contradict what is known of the arm. -/
namespace Xml

theorem readName_rename {f : String → String} (hf : Inj f) (unescape : String → Option String) (t : Tag) (rest : List Ev) :
    readName unescape (renameTag f t) (renameEvs f rest) = mapRest f (readName unescape t rest) := by
  simp only [readName, readText_rename hf]
  rcases readText t rest with e | ⟨s, r⟩
  · rfl
  · simp only [mapRest_ok]
    cases unescape s <;> rfl

theorem thenLoop_rename {f : String → String} (hf : Inj f) (c : FCfg) (fuel : Nat) (endRaw : String) (reject other : Bool) (evs : List Ev) :
    thenLoop c fuel (f endRaw) reject other (renameEvs f evs) = mapRest f (thenLoop c fuel endRaw reject other evs) := by
  fun_induction thenLoop c fuel endRaw reject other evs with
  | case17 => cases ‹Ev› <;> first | rfl | simp at *
  | _ => simp only [renameEvs_cons, renameEvs_nil, renameEv, thenLoop, renameTag_is, renameTag_raw, hf.beq, mapRest_ok,
      mapRest_error, skipToEnd_rename hf, *, ↓reduceIte, Bool.false_eq_true]

theorem bodyLoop_rename {f : String → String} (hf : Inj f) (c : FCfg) (unescape : String → Option String) (fuel : Nat)
    (endRaw : String) (st : BodySt) (evs : List Ev) :
    bodyLoop c unescape fuel (f endRaw) st (renameEvs f evs) = mapRest f (bodyLoop c unescape fuel endRaw st evs) := by
  fun_induction bodyLoop c unescape fuel endRaw st evs with
  | case20 => cases ‹Ev› <;> first | rfl | simp at *
  | _ => simp only [renameEvs_cons, renameEvs_nil, renameEv, bodyLoop, renameTag_is, renameTag_raw, hf.beq, mapRest_ok,
      mapRest_error, skipToEnd_rename hf, readName_rename hf, thenLoop_rename hf, *, ↓reduceIte, Bool.false_eq_true]

theorem skipStmt_rename {α} {f : String → String} (hf : Inj f) (t : Tag) (rest : List Ev) :
    skipStmt (α := α) (renameTag f t) (renameEvs f rest) = mapRest f (skipStmt t rest) := by
  simp only [skipStmt, renameTag_raw, skipToEnd_rename hf]
  cases skipToEnd t.raw rest 0 <;> rfl

def StmtReader.Renames {T} (f : String → String) (rd : StmtReader T) : Prop :=
  ∀ fuel t rest, rd fuel (renameTag f t) (renameEvs f rest) = mapRest f (rd fuel t rest)

theorem readCandidate_rename {f : String → String} (hf : Inj f) (c : FCfg) (parseExpr unescape : String → Option String) :
    StmtReader.Renames f (readCandidate c parseExpr unescape) := by
  intro fuel t rest
  simp only [readCandidate, renameTag_attrs, renameTag_raw, skipStmt_rename hf, bodyLoop_rename hf]
  cases attrLoop parseExpr none t.attrs with
  | error e => rfl
  | ok a =>
    cases a with
    | inactive => rfl
    | expr oe =>
      cases oe with
      | none => rfl
      | some fe =>
        simp only []
        rcases bodyLoop c unescape fuel t.raw {} rest with e | ⟨st, r⟩
        · rfl
        · simp only [mapRest_ok]
          cases st.finish fe <;> rfl

theorem policyOptionsLoop_rename {T} {f : String → String} (hf : Inj f) (rd : StmtReader T) (hrd : StmtReader.Renames f rd)
    (fuel : Nat) (endRaw : String) (map : List (String × T)) (evs : List Ev) :
    policyOptionsLoop rd fuel (f endRaw) map (renameEvs f evs) = mapRest f (policyOptionsLoop rd fuel endRaw map evs) := by
  fun_induction policyOptionsLoop rd fuel endRaw map evs with
  | case12 => cases ‹Ev› <;> first | rfl | simp at *
  | _ => simp only [renameEvs_cons, renameEvs_nil, renameEv, policyOptionsLoop, renameTag_is, hf.beq, mapRest_ok,
      mapRest_error, hrd _ _ _, *, ↓reduceIte, Bool.false_eq_true]

theorem configurationLoop_rename {T} {f : String → String} (hf : Inj f) (rd : StmtReader T) (hrd : StmtReader.Renames f rd)
    (fuel : Nat) (endRaw : String) (seen : Bool) (map : List (String × T)) (evs : List Ev) :
    configurationLoop rd fuel (f endRaw) seen map (renameEvs f evs) = mapRest f (configurationLoop rd fuel endRaw seen map evs) := by
  fun_induction configurationLoop rd fuel endRaw seen map evs with
  | case10 => cases ‹Ev› <;> first | rfl | simp at *
  | _ => simp only [renameEvs_cons, renameEvs_nil, renameEv, configurationLoop, renameTag_is, renameTag_raw, hf.beq, mapRest_ok,
      mapRest_error, policyOptionsLoop_rename hf rd hrd, *, ↓reduceIte, Bool.false_eq_true]

theorem policiesLoop_rename {T} {f : String → String} (hf : Inj f) (rd : StmtReader T) (hrd : StmtReader.Renames f rd)
    (fuel : Nat) (endRaw : String) (this : Option (List (String × T))) (evs : List Ev) :
    policiesLoop rd fuel (f endRaw) this (renameEvs f evs) = policiesLoop rd fuel endRaw this evs := by
  fun_induction policiesLoop rd fuel endRaw this evs with
  | case11 => cases ‹Ev› <;> first | rfl | simp at *
  | _ => simp only [renameEvs_cons, renameEvs_nil, renameEv, policiesLoop, renameTag_is, renameTag_raw, hf.beq, mapRest_ok,
      mapRest_error, configurationLoop_rename hf rd hrd, *, ↓reduceIte, Bool.false_eq_true]

theorem readCandidates_rename {f : String → String} (hf : Inj f) (c : FCfg) (parseExpr unescape : String → Option String)
    (dataRaw : String) (evs : List Ev) :
    readCandidates c parseExpr unescape (f dataRaw) (renameEvs f evs) = readCandidates c parseExpr unescape dataRaw evs := by
  simp [readCandidates, policiesLoop_rename hf _ (readCandidate_rename hf c parseExpr unescape)]

theorem readData_rename {α} (f : String → String) (k : Tag → List Ev → Except Err α)
    (hk : ∀ t rest, k (renameTag f t) (renameEvs f rest) = k t rest) (evs : List Ev) :
    readData k (renameEvs f evs) = readData k evs := by
  induction evs with
  | nil => rfl
  | cons ev rest ih =>
    cases ev with
    | start t => rw [renameEvs_cons, renameEv, readData, readData, hk, ih, renameTag]
    | _ => first | rfl | exact ih

theorem readCandidatesDoc_rename {f : String → String} (hf : Inj f) (c : FCfg) (parseExpr unescape : String → Option String)
    (evs : List Ev) :
    readCandidatesDoc c parseExpr unescape (renameEvs f evs) = readCandidatesDoc c parseExpr unescape evs := by
  unfold readCandidatesDoc
  exact readData_rename f _ (fun t rest => by simp [readCandidates_rename hf]) evs

theorem choiceValueLoop_rename {f : String → String} (hf : Inj f) (fuel : Nat) (evs : List Ev) :
    choiceValueLoop fuel (renameEvs f evs) = mapRest f (choiceValueLoop fuel evs) := by
  fun_induction choiceValueLoop fuel evs with
  | case8 => cases ‹Ev› <;> first | rfl | simp at *
  | _ => simp only [renameEvs_cons, renameEvs_nil, renameEv, choiceValueLoop, renameTag_is, mapRest_ok,
      mapRest_error, readText_rename hf, *, ↓reduceIte, Bool.false_eq_true]

theorem routeFilterLoop_rename {f : String → String} (hf : Inj f) (fuel : Nat) (endRaw : String) (st : RfSt) (evs : List Ev) :
    routeFilterLoop fuel (f endRaw) st (renameEvs f evs) = mapRest f (routeFilterLoop fuel endRaw st evs) := by
  fun_induction routeFilterLoop fuel endRaw st evs with
  | case14 => cases ‹Ev› <;> first | rfl | simp at *
  | _ => simp only [renameEvs_cons, renameEvs_nil, renameEv, routeFilterLoop, renameTag_is, hf.beq, mapRest_ok,
      mapRest_error, readText_rename hf, choiceValueLoop_rename hf, *, ↓reduceIte, Bool.false_eq_true]

theorem readRouteFilter_rename {f : String → String} (hf : Inj f) (fuel : Nat) (t : Tag) (rest : List Ev) :
    readRouteFilter fuel (renameTag f t) (renameEvs f rest) = mapRest f (readRouteFilter fuel t rest) := by
  simp only [readRouteFilter, renameTag_raw, routeFilterLoop_rename hf]
  rcases routeFilterLoop fuel t.raw {} rest with e | ⟨st, r⟩
  · rfl
  · simp only [mapRest_ok]
    cases st.finish <;> rfl

theorem fromLoop_rename {f : String → String} (hf : Inj f) (fuel : Nat) (endRaw : String) (st : FromSt) (evs : List Ev) :
    fromLoop fuel (f endRaw) st (renameEvs f evs) = mapRest f (fromLoop fuel endRaw st evs) := by
  fun_induction fromLoop fuel endRaw st evs with
  | case12 => cases ‹Ev› <;> first | rfl | simp at *
  | _ => simp only [renameEvs_cons, renameEvs_nil, renameEv, fromLoop, renameTag_is, hf.beq, mapRest_ok,
      mapRest_error, readText_rename hf, readRouteFilter_rename hf, *, ↓reduceIte, Bool.false_eq_true]

theorem readTermFrom_rename {f : String → String} (hf : Inj f) (fuel : Nat) (t : Tag) (rest : List Ev) :
    readTermFrom fuel (renameTag f t) (renameEvs f rest) = mapRest f (readTermFrom fuel t rest) := by
  simp only [readTermFrom, renameTag_raw, fromLoop_rename hf]
  rcases fromLoop fuel t.raw {} rest with e | ⟨st, r⟩
  · rfl
  · simp only [mapRest_ok]
    cases st.finish <;> rfl

theorem acceptLoop_rename {f : String → String} (hf : Inj f) (fuel : Nat) (endRaw : String) (accept : Bool) (evs : List Ev) :
    acceptLoop fuel (f endRaw) accept (renameEvs f evs) = mapRest f (acceptLoop fuel endRaw accept evs) := by
  fun_induction acceptLoop fuel endRaw accept evs with
  | case9 => cases ‹Ev› <;> first | rfl | simp at *
  | _ => simp only [renameEvs_cons, renameEvs_nil, renameEv, acceptLoop, renameTag_is, hf.beq, mapRest_ok,
      mapRest_error, *, ↓reduceIte, Bool.false_eq_true]

theorem termLoop_rename {f : String → String} (hf : Inj f) (fuel : Nat) (endRaw : String) (st : TermSt) (evs : List Ev) :
    termLoop fuel (f endRaw) st (renameEvs f evs) = mapRest f (termLoop fuel endRaw st evs) := by
  fun_induction termLoop fuel endRaw st evs with
  | case15 => cases ‹Ev› <;> first | rfl | simp at *
  | _ => simp only [renameEvs_cons, renameEvs_nil, renameEv, termLoop, renameTag_is, renameTag_raw, hf.beq, mapRest_ok,
      mapRest_error, readText_rename hf, readTermFrom_rename hf, acceptLoop_rename hf, *, ↓reduceIte, Bool.false_eq_true]

theorem readTerm_rename {f : String → String} (hf : Inj f) (fuel : Nat) (t : Tag) (rest : List Ev) :
    readTerm fuel (renameTag f t) (renameEvs f rest) = mapRest f (readTerm fuel t rest) := by
  simp only [readTerm, renameTag_raw, termLoop_rename hf]
  rcases termLoop fuel t.raw {} rest with e | ⟨st, r⟩
  · rfl
  · simp only [mapRest_ok]
    cases st.finish <;> rfl

theorem instThenLoop_rename {f : String → String} (hf : Inj f) (fuel : Nat) (endRaw : String) (reject : Bool) (evs : List Ev) :
    instThenLoop fuel (f endRaw) reject (renameEvs f evs) = mapRest f (instThenLoop fuel endRaw reject evs) := by
  fun_induction instThenLoop fuel endRaw reject evs with
  | case9 => cases ‹Ev› <;> first | rfl | simp at *
  | _ => simp only [renameEvs_cons, renameEvs_nil, renameEv, instThenLoop, renameTag_is, hf.beq, mapRest_ok,
      mapRest_error, *, ↓reduceIte, Bool.false_eq_true]

theorem instLoop_rename {f : String → String} (hf : Inj f) (o : IOracle) (fuel : Nat) (endRaw : String) (st : InstSt) (evs : List Ev) :
    instLoop o fuel (f endRaw) st (renameEvs f evs) = mapRest f (instLoop o fuel endRaw st evs) := by
  fun_induction instLoop o fuel endRaw st evs with
  | case15 => cases ‹Ev› <;> first | rfl | simp at *
  | _ => simp only [renameEvs_cons, renameEvs_nil, renameEv, instLoop, renameTag_is, renameTag_raw, hf.beq, mapRest_ok,
      mapRest_error, readName_rename hf, readTerm_rename hf, instThenLoop_rename hf, *, ↓reduceIte, Bool.false_eq_true]

theorem readInstalledStmt_rename {f : String → String} (hf : Inj f) (o : IOracle) :
    StmtReader.Renames f (readInstalledStmt o) := by
  intro fuel t rest
  simp only [readInstalledStmt, renameTag_raw, instLoop_rename hf]
  rcases instLoop o fuel t.raw {} rest with e | ⟨st, r⟩
  · rfl
  · simp only [mapRest_ok]
    cases st.finish <;> rfl

theorem readInstalledEv_rename {f : String → String} (hf : Inj f) (o : IOracle) (dataRaw : String) (evs : List Ev) :
    readInstalledEv o (f dataRaw) (renameEvs f evs) = readInstalledEv o dataRaw evs := by
  simp [readInstalledEv, policiesLoop_rename hf _ (readInstalledStmt_rename hf o)]

theorem readInstalledDoc_rename {f : String → String} (hf : Inj f) (o : IOracle) (evs : List Ev) :
    readInstalledDoc o (renameEvs f evs) = readInstalledDoc o evs := by
  unfold readInstalledDoc
  exact readData_rename f _ (fun t rest => by simp [readInstalledEv_rename hf]) evs

end Xml
