import Bgpfu.Lemmas.Resolve
/-!
Soundness of the evaluator model against the declarative denotation (`RpslSpec.denote`), by
induction on the depth of filter-set indirection and on the expression.
-/
namespace Irr
open Rpsl RpslSpec

/-- the resolvers of query.rs against a server that injects no faults -/
abbrev faultFree (cfg : Cfg) (db : Db) : Resolvers Ev Event := resolvers cfg { db := db, faults := [] }

/-- the set `P` is what `d` denotes, as far as prefixes of a length their family has go -/
def Denotes (P : PSet) (d : Pfx → Prop) : Prop := ∀ q, q.Valid → (P q = true ↔ d q)

theorem evalPse_sound (cfg : Cfg) (db : Db) (hcfg : RsOk cfg db) (s : PrefixSetExpr) :
    (evalPse (faultFree cfg db) s).Sat Clean EvOk fun S => PseOpsOk s → Denotes S (denotePse db s) := by
  rcases s with ms | (_ | _ | _ | n | n | a)
  · exact .pure EvOk.closed fun hops q hq => litSet_iff ms q hq hops
  · exact .pure EvOk.closed fun _ _ _ => ⟨fun _ => trivial, fun _ => rfl⟩
  · exact .pure EvOk.closed fun _ _ _ => ⟨fun _ => trivial, fun _ => rfl⟩
  · exact (resolvePeerAs_sat cfg).mono fun _ h => h.elim
  · exact (resolveRouteSet_sound cfg db n hcfg).mono fun _ h _ => h
  · exact (resolveAsSet_sound db n).mono fun _ h _ q _ => h q
  · exact (resolveAutNum_sound db a).mono fun _ h _ q _ => h q

theorem opWithin_mono {M M' : Nat} (h : M ≤ M') (op : RangeOp) (hw : OpWithin M op) : OpWithin M' op := by
  cases op <;> simp only [OpWithin] at hw ⊢
  omega

theorem le_maxLen (f : Fam) : 32 ≤ f.maxLen := by cases f <;> simp [Fam.maxLen]

theorem evalWith_sound (cfg : Cfg) (db : Db) (hcfg : RsOk cfg db) (hdb : DbOpsOk db)
    (self : Expr → M Ev Event PSet) (dself : Expr → Pfx → Prop)
    (hself : ∀ e, OpsOk e → (self e).Sat Clean EvOk fun P => Denotes P (dself e))
    (hnotany : ∀ q, ¬ dself (.not .any) q) (e : Expr) :
    (evalWith (faultFree cfg db) self e).Sat Clean EvOk fun P => OpsOk e → Denotes P (denoteWith db dself e) := by
  refine evalWith_sat EvOk.closed (faultFree cfg db) self (fun e P => OpsOk e → Denotes P (denoteWith db dself e))
    (fun _ _ _ => ⟨fun _ => trivial, fun _ => rfl⟩) ?_ ?_ ?_ ?_ ?_ e
  · intro s op
    refine (evalPse_sound cfg db hcfg s).mono fun out hout hops q hq => ?_
    exact applyOp_opSet op out _ q hq (fun _ _ => opWithin_mono (le_maxLen _) op hops.2) (hout hops.1)
  · intro n
    refine .bind EvOk.closed (resolveFilterSet_sound db n) fun e' he' => ?_
    rcases he' with hf | ⟨hno, rfl⟩
    · refine (hself e' (FilterOf.opsOk hf hdb)).mono fun P hP _ q hq => (hP q hq).trans ?_
      exact ⟨fun hd => ⟨e', hf, hd⟩, fun ⟨e2, hf2, hd⟩ => FilterOf.unique hf hf2 ▸ hd⟩
    · refine (hself (.not .any) trivial).mono fun P hP _ q hq => (hP q hq).trans ?_
      exact ⟨fun hd => absurd hd (hnotany q), fun ⟨e2, hf2, _⟩ => absurd hf2 (hno e2)⟩
  · intro e s hs hops q hq
    simp only [denoteWith, PSet.not, ← hs hops q hq]
    cases s q <;> simp
  · intro a b s t hs ht hops q hq
    simp only [denoteWith, PSet.and, Bool.and_eq_true, hs hops.1 q hq, ht hops.2 q hq]
  · intro a b s t hs ht hops q hq
    simp only [denoteWith, PSet.or, Bool.or_eq_true, hs hops.1 q hq, ht hops.2 q hq]

theorem eval_sound (cfg : Cfg) (db : Db) (hcfg : RsOk cfg db) (hdb : DbOpsOk db) (fuel : Nat) (e : Expr)
    (hops : OpsOk e) : (eval (faultFree cfg db) fuel e).Sat Clean EvOk fun P => Denotes P (denote db fuel e) := by
  induction fuel generalizing e with
  | zero =>
    exact (evalWith_sound cfg db hcfg hdb _ (fun _ _ => False)
      (fun _ _ => .fail EvOk.closed fun _ h => by cases h) (fun _ h => h) e).mono fun _ h => h hops
  | succ f ih =>
    exact (evalWith_sound cfg db hcfg hdb (eval (faultFree cfg db) f) (denote db f) ih
      (fun q => by cases f <;> simp [denote, denoteWith]) e).mono fun _ h => h hops

end Irr
