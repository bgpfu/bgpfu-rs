import Bgpfu.Model.Caps
/-! The capability parser (C09, and C12 through the bridge in `Lemmas/Hello.lean`): `str::split`, `str::split_once`
and the `:url:1.0` scheme list specified; the table of `Capability::from_str` read from the capability to its
components (`Capability.exact`), and what `classify` answers on every input: from its result to the input by one walk
down the `if` chain (`classify_cases`), from the input to its result by evaluating the chain on a row of the table
(the right-to-left halves of `classify_eq_iff` and `classify_eq_url_iff`). -/
namespace Caps

theorem ite_cases {α : Type} {c : Prop} [Decidable c] {a b x : α} (h : (if c then a else b) = x) :
    (c ∧ a = x) ∨ (¬ c ∧ b = x) := by
  by_cases hc : c
  · exact .inl ⟨hc, by rw [if_pos hc] at h; exact h⟩
  · exact .inr ⟨hc, by rw [if_neg hc] at h; exact h⟩

/-- the pieces written one after the other with the separator `c` between them — what
`str::split(c)` takes apart -/
def joinSep (c : Char) : List Str → Str
  | [] => []
  | [p] => p
  | p :: q :: ps => p ++ c :: joinSep c (q :: ps)

theorem splitOn_ne_nil (c : Char) (l : Str) : splitOn c l ≠ [] := by
  cases l with
  | nil => simp [splitOn]
  | cons x xs =>
    simp only [splitOn]
    split
    · simp
    · split <;> simp

theorem splitOn_cons_of_ne {c x : Char} (h : x ≠ c) (xs : Str) :
    ∃ p ps, splitOn c xs = p :: ps ∧ splitOn c (x :: xs) = (x :: p) :: ps := by
  cases hs : splitOn c xs with
  | nil => exact absurd hs (splitOn_ne_nil c xs)
  | cons p ps => exact ⟨p, ps, rfl, by simp [splitOn, h, hs]⟩

theorem splitOn_free (c : Char) (l : Str) : ∀ p ∈ splitOn c l, c ∉ p := by
  induction l with
  | nil => simp [splitOn]
  | cons x xs ih =>
    by_cases hx : x = c
    · subst hx
      simpa [splitOn] using ih
    · obtain ⟨p, ps, h1, h2⟩ := splitOn_cons_of_ne hx xs
      rw [h1] at ih
      rw [h2]
      rw [List.forall_mem_cons] at ih ⊢
      exact ⟨by simp [Ne.symm hx, ih.1], ih.2⟩

theorem joinSep_cons_cons (c x : Char) (p : Str) (ps : List Str) :
    joinSep c ((x :: p) :: ps) = x :: joinSep c (p :: ps) := by
  cases ps <;> rfl

theorem joinSep_splitOn (c : Char) (l : Str) : joinSep c (splitOn c l) = l := by
  induction l with
  | nil => rfl
  | cons x xs ih =>
    by_cases hx : x = c
    · subst hx
      obtain ⟨p, ps, hs⟩ := List.exists_cons_of_ne_nil (splitOn_ne_nil x xs)
      rw [splitOn, if_pos rfl, hs, joinSep, ← hs, ih]; rfl
    · obtain ⟨p, ps, h1, h2⟩ := splitOn_cons_of_ne hx xs
      rw [h2, joinSep_cons_cons, ← h1, ih]

theorem splitOn_of_not_mem {c : Char} {p : Str} (hp : c ∉ p) : splitOn c p = [p] := by
  induction p with
  | nil => rfl
  | cons x xs ih =>
    simp only [List.mem_cons, not_or] at hp
    simp [splitOn, Ne.symm hp.1, ih hp.2]

theorem splitOn_append {c : Char} {p : Str} (hp : c ∉ p) (l : Str) : splitOn c (p ++ c :: l) = p :: splitOn c l := by
  induction p with
  | nil => simp [splitOn]
  | cons x xs ih =>
    simp only [List.mem_cons, not_or] at hp
    simp [splitOn, Ne.symm hp.1, ih hp.2]

theorem splitOn_joinSep (c : Char) (ps : List Str) (hne : ps ≠ []) (hfree : ∀ p ∈ ps, c ∉ p) :
    splitOn c (joinSep c ps) = ps := by
  induction ps with
  | nil => exact absurd rfl hne
  | cons p ps ih =>
    rw [List.forall_mem_cons] at hfree
    cases ps with
    | nil => exact splitOn_of_not_mem hfree.1
    | cons q qs => rw [joinSep, splitOn_append hfree.1, ih (by simp) hfree.2]

theorem splitOn_eq_iff (c : Char) (l : Str) (ps : List Str) :
    splitOn c l = ps ↔ ps ≠ [] ∧ (∀ p ∈ ps, c ∉ p) ∧ joinSep c ps = l := by
  constructor
  · rintro rfl
    exact ⟨splitOn_ne_nil c l, splitOn_free c l, joinSep_splitOn c l⟩
  · rintro ⟨h1, h2, rfl⟩
    exact splitOn_joinSep c ps h1 h2

theorem splitOnce_append {c : Char} {a : Str} (ha : c ∉ a) (b : Str) : splitOnce c (a ++ c :: b) = some (a, b) := by
  induction a with
  | nil => simp [splitOnce]
  | cons x xs ih =>
    simp only [List.mem_cons, not_or] at ha
    simp [splitOnce, Ne.symm ha.1, ih ha.2]

theorem splitOnce_eq_some_iff (c : Char) (l a b : Str) :
    splitOnce c l = some (a, b) ↔ c ∉ a ∧ l = a ++ c :: b := by
  refine ⟨fun h => ?_, fun ⟨ha, hl⟩ => hl ▸ splitOnce_append ha b⟩
  induction l generalizing a with
  | nil => cases h
  | cons x xs ih =>
    by_cases hx : x = c
    · simp only [splitOnce, hx, if_true, Option.some.injEq, Prod.mk.injEq] at h
      obtain ⟨rfl, rfl⟩ := h
      simp [hx]
    · simp only [splitOnce, hx, if_false, Option.map_eq_some_iff, Prod.mk.injEq, Prod.exists] at h
      obtain ⟨a', b', h, rfl, rfl⟩ := h
      obtain ⟨h1, h2⟩ := ih a' h
      exact ⟨by simp [h1, Ne.symm hx], by simp [h2]⟩

theorem splitOnce_eq_none_iff (c : Char) (l : Str) : splitOnce c l = none ↔ c ∉ l := by
  induction l with
  | nil => simp [splitOnce]
  | cons x xs ih =>
    by_cases hx : x = c
    · simp [splitOnce, hx]
    · have hcx : ¬ c = x := fun h => hx h.symm
      simp [splitOnce, hx, ih, hcx]

/-- the five components are exactly these: in particular **no** query and **no** fragment — a
present but empty one (`some []`, as in `…base:1.0#` or `…base:1.0?`) does not qualify -/
def UriParts.Is (p : UriParts) (scheme : String) (authority : Option String) (path : String) : Prop :=
  p.scheme = scheme.toList ∧ p.authority = authority.map String.toList ∧ p.path = path.toList ∧
    p.query = none ∧ p.fragment = none

instance (p : UriParts) (s : String) (a : Option String) (pa : String) : Decidable (p.Is s a pa) := by
  unfold UriParts.Is; infer_instance

/-- capabilities.rs:136-161, 177-183 read from right to left: the components (scheme, authority, path) an
arm with neither query nor fragment asks for. `none`: the capability comes from no such arm. -/
def Capability.exact : Capability → Option (String × Option String × String)
  | .base10 => some ("urn", none, "ietf:params:netconf:base:1.0")
  | .base11 => some ("urn", none, "ietf:params:netconf:base:1.1")
  | .writableRunning => some ("urn", none, "ietf:params:netconf:capability:writable-running:1.0")
  | .candidate => some ("urn", none, "ietf:params:netconf:capability:candidate:1.0")
  | .confirmedCommit10 => some ("urn", none, "ietf:params:netconf:capability:confirmed-commit:1.0")
  | .confirmedCommit11 => some ("urn", none, "ietf:params:netconf:capability:confirmed-commit:1.1")
  | .rollbackOnError => some ("urn", none, "ietf:params:netconf:capability:rollback-on-error:1.0")
  | .validate10 => some ("urn", none, "ietf:params:netconf:capability:validate:1.0")
  | .validate11 => some ("urn", none, "ietf:params:netconf:capability:validate:1.1")
  | .startup => some ("urn", none, "ietf:params:netconf:capability:startup:1.0")
  | .xpath => some ("urn", none, "ietf:params:netconf:capability:xpath:1.0")
  | .junos => some ("http", some "xml.juniper.net", "/netconf/junos/1.0")
  | .url _ | .unknown _ => none

/-- `urnCap` on the twelve names `classify` uses. Evaluating `String.append`/`String.toList` is dear (for `simp`,
`decide` and the kernel alike), so it is done here once; everything below compares `String` literals, which
`simp` settles by pointing at the first differing character. -/
theorem urnCap_table :
    urnCap "base:1.0" = "ietf:params:netconf:base:1.0".toList
    ∧ urnCap "base:1.1" = "ietf:params:netconf:base:1.1".toList
    ∧ urnCap "capability:writable-running:1.0" = "ietf:params:netconf:capability:writable-running:1.0".toList
    ∧ urnCap "capability:candidate:1.0" = "ietf:params:netconf:capability:candidate:1.0".toList
    ∧ urnCap "capability:confirmed-commit:1.0" = "ietf:params:netconf:capability:confirmed-commit:1.0".toList
    ∧ urnCap "capability:confirmed-commit:1.1" = "ietf:params:netconf:capability:confirmed-commit:1.1".toList
    ∧ urnCap "capability:rollback-on-error:1.0" = "ietf:params:netconf:capability:rollback-on-error:1.0".toList
    ∧ urnCap "capability:validate:1.0" = "ietf:params:netconf:capability:validate:1.0".toList
    ∧ urnCap "capability:validate:1.1" = "ietf:params:netconf:capability:validate:1.1".toList
    ∧ urnCap "capability:startup:1.0" = "ietf:params:netconf:capability:startup:1.0".toList
    ∧ urnCap "capability:url:1.0" = "ietf:params:netconf:capability:url:1.0".toList
    ∧ urnCap "capability:xpath:1.0" = "ietf:params:netconf:capability:xpath:1.0".toList := by
  simp only [urnCap, String.reduceAppend, and_self]

/-- `impl FromStr for Capability` in one statement: an arm of the table was taken, or the `:url:1.0` arm, or the last
one. Every fact that goes from a result of `classify` to its input is read off this one walk down the `if` chain. -/
theorem classify_cases (raw : Str) (p : UriParts) :
    (∃ s a pa, (classify raw p).exact = some (s, a, pa) ∧ p.Is s a pa)
    ∨ (p.scheme = "urn".toList ∧ p.authority = none ∧ p.path = "ietf:params:netconf:capability:url:1.0".toList
        ∧ p.fragment = none ∧ ∃ q, p.query = some q ∧ classify raw p = .url (urlSchemes q))
    ∨ classify raw p = .unknown raw := by
  -- an arm `("urn", None, path, None, None) => k`, taken
  have plain : ∀ {name full} {k : Capability}, urnCap name = full.toList → k.exact = some ("urn", none, full) →
      (p.scheme == "urn".toList && p.authority == none && p.query == none && p.fragment == none
        && p.path == urnCap name) = true → ∃ s a pa, k.exact = some (s, a, pa) ∧ p.Is s a pa := by
    intro name full k hn hk hc
    simp only [Bool.and_eq_true, beq_iff_eq, hn] at hc
    exact ⟨_, _, _, hk, hc.1.1.1.1, hc.1.1.1.2, hc.2, hc.1.1.2, hc.1.2⟩
  obtain ⟨base10, base11, writableRunning, candidate, confirmedCommit10, confirmedCommit11, rollbackOnError,
    validate10, validate11, startup, url, xpath⟩ := urnCap_table
  generalize h : classify raw p = k
  unfold classify at h
  dsimp only at h
  -- down the chain, arm by arm: taken (`hc`), or on to the next; `split at h` is no alternative: its `simp` over
  -- the whole chain runs out of steps
  obtain ⟨hc, rfl⟩ | ⟨_, h⟩ := ite_cases h
  · exact .inl (plain base10 rfl hc)
  obtain ⟨hc, rfl⟩ | ⟨_, h⟩ := ite_cases h
  · exact .inl (plain base11 rfl hc)
  obtain ⟨hc, rfl⟩ | ⟨_, h⟩ := ite_cases h
  · exact .inl (plain writableRunning rfl hc)
  obtain ⟨hc, rfl⟩ | ⟨_, h⟩ := ite_cases h
  · exact .inl (plain candidate rfl hc)
  obtain ⟨hc, rfl⟩ | ⟨_, h⟩ := ite_cases h
  · exact .inl (plain confirmedCommit10 rfl hc)
  obtain ⟨hc, rfl⟩ | ⟨_, h⟩ := ite_cases h
  · exact .inl (plain confirmedCommit11 rfl hc)
  obtain ⟨hc, rfl⟩ | ⟨_, h⟩ := ite_cases h
  · exact .inl (plain rollbackOnError rfl hc)
  obtain ⟨hc, rfl⟩ | ⟨_, h⟩ := ite_cases h
  · exact .inl (plain validate10 rfl hc)
  obtain ⟨hc, rfl⟩ | ⟨_, h⟩ := ite_cases h
  · exact .inl (plain validate11 rfl hc)
  obtain ⟨hc, rfl⟩ | ⟨_, h⟩ := ite_cases h
  · exact .inl (plain startup rfl hc)
  obtain ⟨hc, h⟩ | ⟨_, h⟩ := ite_cases h
  · -- `:url:1.0`: any query, or none and then `Unknown`
    simp only [Bool.and_eq_true, beq_iff_eq, url] at hc
    cases hq : p.query with
    | some q => rw [hq] at h; exact .inr (.inl ⟨hc.1.1.1, hc.1.1.2, hc.1.2, hc.2, q, rfl, h.symm⟩)
    | none => rw [hq] at h; exact .inr (.inr h.symm)
  obtain ⟨hc, rfl⟩ | ⟨_, h⟩ := ite_cases h
  · exact .inl (plain xpath rfl hc)
  obtain ⟨hc, rfl⟩ | ⟨_, rfl⟩ := ite_cases h
  · simp only [Bool.and_eq_true, beq_iff_eq] at hc
    exact .inl ⟨_, _, _, rfl, hc.1.1.1.1, hc.1.1.1.2, hc.1.1.2, hc.1.2, hc.2⟩
  · exact .inr (.inr rfl)

theorem classify_eq_iff {k : Capability} {s a pa} (hk : k.exact = some (s, a, pa)) (raw : Str) (p : UriParts) :
    classify raw p = k ↔ p.Is s a pa := by
  constructor
  · rintro rfl
    obtain ⟨_, _, _, h, his⟩ | ⟨_, _, _, _, _, _, h⟩ | h := classify_cases raw p
    · cases hk.symm.trans h; exact his
    · rw [h] at hk; cases hk
    · rw [h] at hk; cases hk
  · -- the entries are pairwise different, so the arm of `k` is reached
    rintro ⟨h1, h2, h3, h4, h5⟩
    cases k <;> cases hk <;>
      simp only [classify, h1, h2, h3, h4, h5, urnCap_table, Option.map, Bool.and_eq_true, beq_iff_eq, String.toList_inj,
        String.reduceEq, reduceCtorEq, and_false, false_and, and_self, if_false, if_true]

theorem classify_eq_unknown {raw : Str} {p : UriParts}
    (hex : ∀ k s a pa, Capability.exact k = some (s, a, pa) → ¬ p.Is s a pa)
    (hurl : p.path ≠ "ietf:params:netconf:capability:url:1.0".toList) : classify raw p = .unknown raw := by
  obtain ⟨_, _, _, hk, his⟩ | ⟨_, _, h3, _⟩ | h := classify_cases raw p
  · exact absurd his (hex _ _ _ _ hk)
  · exact absurd h3 hurl
  · exact h

theorem classify_unknown_raw {raw t : Str} {p : UriParts} (h : classify raw p = .unknown t) : t = raw := by
  obtain ⟨_, _, _, hk, _⟩ | ⟨_, _, _, _, _, _, h'⟩ | h' := classify_cases raw p
  · rw [h] at hk; cases hk
  · cases h.symm.trans h'
  · cases h.symm.trans h'; rfl

theorem classify_eq_url_iff (raw : Str) (p : UriParts) (l : List Str) :
    classify raw p = .url l ↔
      p.scheme = "urn".toList ∧ p.authority = none ∧ p.path = "ietf:params:netconf:capability:url:1.0".toList ∧
        p.fragment = none ∧ ∃ q, p.query = some q ∧ l = urlSchemes q := by
  constructor
  · intro h
    obtain ⟨_, _, _, hk, _⟩ | ⟨h1, h2, h3, h4, q, h5, h'⟩ | h' := classify_cases raw p
    · rw [h] at hk; cases hk
    · cases h.symm.trans h'; exact ⟨h1, h2, h3, h4, q, h5, rfl⟩
    · cases h.symm.trans h'
  · rintro ⟨h1, h2, h3, h4, q, h5, rfl⟩
    simp only [classify, h1, h2, h3, h4, h5, urnCap_table, Bool.and_eq_true, beq_iff_eq, String.toList_inj,
      String.reduceEq, reduceCtorEq, and_false, false_and, and_self, if_false, if_true]

theorem classify_of_fragment {raw : Str} {p : UriParts} (h : p.fragment ≠ none) : classify raw p = .unknown raw := by
  obtain ⟨_, _, _, _, his⟩ | ⟨_, _, _, h4, _⟩ | h' := classify_cases raw p
  · exact absurd his.2.2.2.2 h
  · exact absurd h4 h
  · exact h'

theorem readCapability_eq_iff (b : Bool) (t : CapText) (k : Capability) (hk : ∀ l, k ≠ .url l) :
    readCapability b t = some k ↔ ∃ p, t.parts = some p ∧ classify t.text p = k := by
  unfold readCapability
  cases hp : t.parts with
  | none => simp
  | some p =>
    simp only [Option.some.injEq, exists_eq_left']
    split
    · next l hl =>
      constructor
      · intro h
        exfalso
        cases b <;> simp only [Bool.false_eq_true, if_false, if_true] at h
        · cases h; exact hk _ rfl
        · split at h
          · cases h; exact hk _ rfl
          · cases h; exact hk _ rfl
          · cases h
      · intro h; rw [hl] at h; exact absurd h.symm (hk l)
    · next c hc => simp

/-- the schemes are exactly the comma-separated values of the parameters named `scheme` -/
theorem mem_urlSchemes_iff (q x : Str) :
    x ∈ urlSchemes q ↔
      ∃ param ∈ splitOn '&' q, ∃ value, param = "scheme=".toList ++ value ∧ x ∈ splitOn ',' value := by
  -- evaluated once, and by the kernel only: unifying the two sides by `rfl` unfolds `String.toList` in the elaborator
  have hs : ∀ v : Str, "scheme=".toList ++ v = "scheme".toList ++ '=' :: v := fun v => by
    rw [show "scheme=".toList = "scheme".toList ++ ['='] by decide +kernel, List.append_assoc]; rfl
  unfold urlSchemes
  simp only [List.mem_flatMap]
  constructor
  · rintro ⟨param, hp, hx⟩
    refine ⟨param, hp, ?_⟩
    split at hx
    · next k v hk =>
      split at hx
      · next hk' =>
        subst hk'
        exact ⟨v, ((splitOnce_eq_some_iff _ _ _ _).1 hk).2.trans (hs v).symm, hx⟩
      · cases hx
    · cases hx
  · rintro ⟨param, hp, value, rfl, hx⟩
    refine ⟨_, hp, ?_⟩
    rw [hs value, splitOnce_append (by decide +kernel)]
    simpa using hx

theorem mem_urlSchemes_joinSep_iff (params : List Str) (hne : params ≠ []) (hfree : ∀ p ∈ params, '&' ∉ p) (x : Str) :
    x ∈ urlSchemes (joinSep '&' params) ↔
      ∃ value, ("scheme=".toList ++ value) ∈ params ∧ x ∈ splitOn ',' value := by
  rw [mem_urlSchemes_iff, splitOn_joinSep '&' params hne hfree]
  constructor
  · rintro ⟨_, hp, value, rfl, hx⟩; exact ⟨value, hp, hx⟩
  · rintro ⟨value, hp, hx⟩; exact ⟨_, hp, value, rfl, hx⟩

theorem urlSchemes_eq_nil (q : Str) (h : ∀ param ∈ splitOn '&' q, ¬ "scheme=".toList <+: param) :
    urlSchemes q = [] := by
  apply List.eq_nil_iff_forall_not_mem.2
  intro x hx
  obtain ⟨param, hp, value, rfl, _⟩ := (mem_urlSchemes_iff q x).1 hx
  exact h _ hp (List.prefix_append _ _)

theorem urlSchemes_append_other (params other : List Str) (hne : params ≠ [])
    (hfree : ∀ p ∈ params ++ other, '&' ∉ p) (hother : ∀ p ∈ other, ¬ "scheme=".toList <+: p) (x : Str) :
    x ∈ urlSchemes (joinSep '&' (params ++ other)) ↔ x ∈ urlSchemes (joinSep '&' params) := by
  rw [mem_urlSchemes_joinSep_iff _ (by simp [hne]) hfree,
    mem_urlSchemes_joinSep_iff _ hne (fun p hp => hfree p (by simp [hp]))]
  constructor
  · rintro ⟨value, hp, hx⟩
    rcases List.mem_append.1 hp with hp | hp
    · exact ⟨value, hp, hx⟩
    · exact absurd (List.prefix_append _ _) (hother _ hp)
  · rintro ⟨value, hp, hx⟩; exact ⟨value, List.mem_append_left _ hp, hx⟩

end Caps
