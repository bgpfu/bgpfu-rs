import Bgpfu.Model.Run
/-!
The phase program of `Model/Run.lean` (`runPhases`, against a scripted fault): when a run succeeds,
what reaches the server, and how a run over an appended phase list decomposes.  Used by C04.
-/
namespace Run

/-- the request at position `p` was positively acknowledged -/
def acked (fault : Option (Nat × Fault)) (p : Nat) : Prop :=
  match fault with
  | none => True
  | some (fp, k) => p < fp ∨ (p = fp ∧ k = .closeAfter)

/-- every request up to position `m` was positively acknowledged -/
def allAcked (fault : Option (Nat × Fault)) (m : Nat) : Prop := ∀ p, 1 ≤ p → p ≤ m → acked fault p

/-- acknowledgement is downward closed (position `fp` itself is acknowledged only for close-after,
position `fp + 1` never), so "all up to `m`" is "`m`" -/
theorem allAcked_iff_acked (fault : Option (Nat × Fault)) (hfault : ∀ fp k, fault = some (fp, k) → 1 ≤ fp)
    (m : Nat) : allAcked fault m ↔ acked fault m := by
  cases fault with
  | none => exact ⟨fun _ => trivial, fun _ _ _ _ => trivial⟩
  | some fk =>
    obtain ⟨fp, k⟩ := fk
    have hfp := hfault fp k rfl
    simp only [allAcked, acked]
    constructor
    · intro h
      have h1 := h fp hfp
      have h2 := h (fp + 1) (by omega)
      by_cases hk : k = .closeAfter <;> simp [hk] at h1 h2 ⊢ <;> omega
    · intro h p _ _
      by_cases hk : k = .closeAfter <;> simp [hk] at h ⊢ <;> omega

theorem allAcked_some (fp : Nat) (k : Fault) (m : Nat) (hfp : 1 ≤ fp) :
    allAcked (some (fp, k)) m ↔ (m < fp ∨ (m = fp ∧ k = .closeAfter)) :=
  allAcked_iff_acked _ (by rintro _ _ ⟨⟩; exact hfp) m

def totalLen (phs : List (List Req)) : Nat := (phs.map List.length).sum

theorem totalLen_cons (ph : List Req) (rest : List (List Req)) :
    totalLen (ph :: rest) = ph.length + totalLen rest := rfl

theorem awaitOk_some (fp : Nat) (k : Fault) (p : Nat) :
    awaitOk (some (fp, k)) p = (decide (p < fp) || (p == fp && k.isCloseAfter) || (decide (fp < p) && !k.closes)) := rfl

theorem sendFails_closesAt (fp : Nat) (k : Fault) (s : Nat) :
    sendFails (closesAt (some (fp, k))) s = (k.closes && decide (fp < s)) := by
  cases h : k.closes <;> simp [sendFails, closesAt, h]

theorem isCloseAfter_iff (k : Fault) : k.isCloseAfter = true ↔ k = .closeAfter := by
  cases k <;> simp [Fault.isCloseAfter]

/-- right after an acknowledged position, awaiting the next reply succeeds iff that position is
acknowledged too (the third disjunct of `awaitOk`, "after the fault and the connection is still
up", cannot apply: either the fault is still ahead, or it was a close-after). -/
theorem awaitOk_next (fault : Option (Nat × Fault)) (m : Nat) (hm : acked fault m) :
    awaitOk fault (m + 1) = true ↔ acked fault (m + 1) := by
  cases fault with
  | none => simp [awaitOk, acked]
  | some fk =>
    obtain ⟨fp, k⟩ := fk
    simp only [acked, awaitOk_some, Bool.or_eq_true, Bool.and_eq_true, decide_eq_true_eq, beq_iff_eq,
      isCloseAfter_iff] at hm ⊢
    rcases hm with hm | ⟨hm, hk⟩
    · constructor
      · rintro (h | h)
        · exact h
        · omega
      · exact Or.inl
    · subst hm hk
      simp [Fault.closes]

theorem allAcked_succ (fault : Option (Nat × Fault)) (m : Nat) :
    allAcked fault (m + 1) ↔ allAcked fault m ∧ acked fault (m + 1) := by
  constructor
  · exact fun h => ⟨fun p h1 h2 => h p h1 (Nat.le_succ_of_le h2), h (m + 1) (Nat.le_add_left 1 m) (Nat.le_refl _)⟩
  · rintro ⟨h, h'⟩ p h1 h2
    rcases Nat.le_or_eq_of_le_succ h2 with h2 | rfl
    · exact h p h1 h2
    · exact h'

theorem awaits_all (fault : Option (Nat × Fault)) (start len : Nat) (hprev : allAcked fault start)
    (hfault : ∀ fp k, fault = some (fp, k) → 1 ≤ fp) :
    (((List.range len).map fun i => awaitOk fault (start + 1 + i)).all id = true) ↔ allAcked fault (start + len) := by
  induction len with
  | zero => simpa using hprev
  | succ len ih =>
    have e : start + 1 + len = start + len + 1 := by omega
    rw [List.range_succ, List.map_append, List.all_append, Bool.and_eq_true, ih, ← Nat.add_assoc, allAcked_succ]
    refine and_congr_right fun h => ?_
    simp only [List.map_cons, List.map_nil, List.all_cons, List.all_nil, Bool.and_true, id, e]
    exact awaitOk_next fault (start + len) ((allAcked_iff_acked fault hfault _).mp h)

theorem runPhases_ok (fault : Option (Nat × Fault)) (hfault : ∀ fp k, fault = some (fp, k) → 1 ≤ fp)
    (phs : List (List Req)) (start : Nat) (trace : List Req) (hprev : allAcked fault start) :
    (runPhases fault phs start trace).2 = true ↔ allAcked fault (start + totalLen phs) := by
  induction phs generalizing start trace with
  | nil => simp [runPhases, totalLen, hprev]
  | cons ph rest ih =>
    have hiff := awaits_all fault start ph.length hprev hfault
    rw [totalLen_cons, ← Nat.add_assoc]
    simp only [runPhases]
    by_cases hs : (!ph.isEmpty && sendFails (closesAt fault) (start + 1)) = true
    · -- the transport was closed while an earlier position was handled, and `ph` has a request
      rw [if_pos hs]
      refine iff_of_false Bool.false_ne_true fun hall => ?_
      cases fault with
      | none => simp [sendFails, closesAt] at hs
      | some fk =>
        obtain ⟨fp, k⟩ := fk
        have hl : 0 < ph.length := by cases ph <;> simp at hs ⊢
        rw [allAcked_some fp k _ (hfault fp k rfl)] at hall
        simp [sendFails_closesAt] at hs
        omega
    · rw [if_neg hs]
      by_cases hoks : ((List.range ph.length).map fun i => awaitOk fault (start + 1 + i)).all id = true
      · rw [if_pos hoks]
        exact ih _ _ (hiff.mp hoks)
      · rw [if_neg hoks]
        exact iff_of_false Bool.false_ne_true fun hall =>
          hoks (hiff.mpr fun p hp1 hp2 => hall p hp1 (Nat.le_trans hp2 (Nat.le_add_right ..)))

theorem totalLen_phases (n : Nat) : totalLen (phases n) = 6 + n := by
  simp [totalLen, phases]; omega

theorem runPhases_append (fault : Option (Nat × Fault)) (pre post : List (List Req)) (start : Nat)
    (trace : List Req) :
    runPhases fault (pre ++ post) start trace =
      if (runPhases fault pre start trace).2 = true then
        runPhases fault post (start + totalLen pre) (runPhases fault pre start trace).1
      else runPhases fault pre start trace := by
  induction pre generalizing start trace with
  | nil => simp [runPhases, totalLen]
  | cons ph rest ih =>
    by_cases hs : (!ph.isEmpty && sendFails (closesAt fault) (start + 1)) = true
    · simp [runPhases, hs]
    · by_cases ho : ((List.range ph.length).map fun i => awaitOk fault (start + 1 + i)).all id = true
      · simp only [List.cons_append, runPhases, hs, ho, if_true, totalLen_cons, ← Nat.add_assoc]
        exact ih _ _
      · simp [runPhases, hs, ho]

theorem runPhases_trace_mem (fault : Option (Nat × Fault)) (phs : List (List Req)) (start : Nat)
    (trace : List Req) (r : Req) (h : r ∈ (runPhases fault phs start trace).1) :
    r ∈ trace ∨ r ∈ phs.flatten := by
  induction phs generalizing start trace with
  | nil => exact Or.inl h
  | cons ph rest ih =>
    simp only [runPhases] at h
    split at h
    · exact Or.inl h
    · split at h
      · simpa [or_assoc] using ih _ _ h
      · rcases List.mem_append.mp h with h | h
        · exact Or.inl h
        · exact Or.inr (by simp [h])

/-- the phases up to the last load, and the commit with what follows it -/
theorem phases_split (n : Nat) :
    phases n = [[.openDb], [.getRunning, .getCandidate], (List.range n).map .load] ++
      [[.commit], [.closeDb], [.closeSession]] := rfl

theorem prefix_no_commit (n : Nat) (fault : Option (Nat × Fault)) :
    commitRequested (runPhases fault
      [[.openDb], [.getRunning, .getCandidate], (List.range n).map .load] 0 []).1 = false :=
  Bool.eq_false_iff.mpr fun hc => by
    have := runPhases_trace_mem fault _ 0 [] .commit (by simpa [commitRequested] using hc)
    simp at this

theorem tail_closed (fault : Option (Nat × Fault)) (start : Nat) (trace : List Req)
    (hs : sendFails (closesAt fault) (start + 1) = true) :
    (runPhases fault [[.commit], [.closeDb], [.closeSession]] start trace).1 = trace := by
  simp [runPhases, hs]

end Run
