import Bgpfu.Lemmas.Rename
import Bgpfu.Lemmas.TrailMisc
/-!
Every reader of /repo/netconf/src/message is `loop { match reader.read_resolved_event()? { … } }`: a `Start`
event is dispatched on namespace, local name and state to the reader of that child element, whose value gives
the next state; `Empty` changes the state; some events are skipped; one ends the loop; anything else is
`UnexpectedXmlEvent`. `readLoop` is that loop, given by its arms and its level (the children of an element, or
a whole message). The readers in the arms carry the proof that they are regular (`RReader`: more fuel, bounded
consumption, renaming of raw names, comments in front of the final `Eof`) and are built from `read_text`, other
loops and post-processing of the value, so `readLoop_mono/good/rename/trail` have no hypothesis about the arms.
Dispatch sees `t.ns` and `t.lname` only, which is why it commutes with renaming.

The combinators on a reader's result `Except Err (α × List Ev)`: `mapEvs g` rewrites the events left
(`Lemmas/Totality.lean`; `mapRest f` of `Lemmas/Rename.lean` is `mapEvs (renameEvs f)`: `mapRest_eq`; `mapTrail n` of
`Lemmas/TrailMisc.lean` is `mapEvs (trailMisc n)`), `thenState g` makes the next state of the value and `valueOf`
forgets the events (both here), `liftR r rest` makes a result of a value of the child-level semantics
(`Lemmas/Readers.lean`).
-/
namespace Xml

/-- the content of an element being read: the start tag, fuel, the events after the tag -/
abbrev Reader (σ : Type) := Tag → Nat → List Ev → Except Err (σ × List Ev)

/-- `x` is what a reader makes of `trailMisc n evs`, `y` what it makes of `evs`, with the same fuel. `fuel`: the
list with the insertion is longer, so the fuel that served `evs` may not serve it (`readDoc_trail`, which gives
each list the fuel of its own length, is where this case goes away); `moved`: the reader stopped in front of
the insertion and hands it on in the rest; `same`: its result does not show the insertion: it fails either
way, or gave up the rest (`skipToEndLenient_trail`) -/
inductive Trails {α} (n : Nat) (x y : Except Err (α × List Ev)) : Prop where
  | fuel (h : x = .error .fuel)
  | moved (h : x = mapTrail n y)
  | same (h : x = y)

structure Reader.Regular {σ} (rd : Reader σ) : Prop where
  mono : ∀ t fuel evs, rd t fuel evs ≠ .error .fuel → rd t (fuel + 1) evs = rd t fuel evs
  /-- `≤`, not `<` as in `Good`: `_ = reader.read_to_end(..)` (`RReader.skipLenient`) may leave all it got -/
  noLonger : ∀ t fuel evs v rest, rd t fuel evs = .ok (v, rest) → rest.length ≤ evs.length
  enough : ∀ t fuel evs, evs.length < fuel → rd t fuel evs ≠ .error .fuel
  renames : ∀ {f : String → String}, Inj f → ∀ t fuel evs,
    rd (renameTag f t) fuel (renameEvs f evs) = mapRest f (rd t fuel evs)
  trails : ∀ n t fuel evs, Trails n (rd t fuel (trailMisc n evs)) (rd t fuel evs)

structure RReader (σ : Type) where
  run : Reader σ
  regular : run.Regular

def thenState {β σ : Type} (g : β → Except Err σ) : Except Err (β × List Ev) → Except Err (σ × List Ev)
  | .ok (b, r) => (match g b with | .ok s => .ok (s, r) | .error e => .error e)
  | .error e => .error e

theorem thenState_mapEvs {β σ : Type} (g : β → Except Err σ) (h : List Ev → List Ev) (x : Except Err (β × List Ev)) :
    thenState g (mapEvs h x) = mapEvs h (thenState g x) := by
  cases x with
  | error e => rfl
  | ok p => obtain ⟨b, r⟩ := p; simp only [mapEvs, thenState]; cases g b <;> rfl

theorem thenState_fuel {β σ : Type} {g : β → Except Err σ} (hg : ∀ b, g b ≠ .error .fuel) {x : Except Err (β × List Ev)}
    (h : thenState g x = .error .fuel) : x = .error .fuel := by
  cases x with
  | error e => cases Except.error.inj h; rfl
  | ok p =>
    obtain ⟨b, r⟩ := p
    simp only [thenState] at h
    cases hb : g b with
    | error e => rw [hb] at h; cases h; exact absurd hb (hg b)
    | ok s => rw [hb] at h; cases h

theorem thenState_ok {β σ : Type} {g : β → Except Err σ} {x : Except Err (β × List Ev)} {s : σ} {rest : List Ev}
    (h : thenState g x = .ok (s, rest)) : ∃ b, x = .ok (b, rest) := by
  cases x with
  | error e => cases h
  | ok p =>
    obtain ⟨b, r⟩ := p
    simp only [thenState] at h
    cases hb : g b with
    | error e => rw [hb] at h; cases h
    | ok s => rw [hb] at h; cases h; exact ⟨b, rfl⟩

theorem Trails.thenState {β σ : Type} {n : Nat} {x y : Except Err (β × List Ev)} (g : β → Except Err σ) (h : Trails n x y) :
    Trails n (thenState g x) (thenState g y) := by
  cases h with
  | fuel h => subst h; exact .fuel rfl
  | moved h => subst h; exact .moved (thenState_mapEvs g _ y)
  | same h => subst h; exact .same rfl

def RReader.andThen {β σ : Type} (rd : RReader β) (g : β → Except Err σ) (hg : ∀ b, g b ≠ .error .fuel) : RReader σ where
  run t fuel evs := thenState g (rd.run t fuel evs)
  regular :=
    { mono := fun t fuel evs h => by
        rw [rd.regular.mono t fuel evs (fun h' => h (by rw [h']; rfl))]
      noLonger := fun t fuel evs _ _ h => by
        obtain ⟨b, hb⟩ := thenState_ok h
        exact rd.regular.noLonger t fuel evs b _ hb
      enough := fun t fuel evs hf h => rd.regular.enough t fuel evs hf (thenState_fuel hg h)
      renames := fun hf t fuel evs => by simp only [rd.regular.renames hf, mapRest_eq, thenState_mapEvs]
      trails := fun n t fuel evs => (rd.regular.trails n t fuel evs).thenState g }

def RReader.map {β σ : Type} (rd : RReader β) (g : β → σ) : RReader σ :=
  rd.andThen (fun b => .ok (g b)) (fun _ => nofun)

def RReader.parse {β σ : Type} (rd : RReader β) (p : β → Option σ) (e : Err) (he : e ≠ .fuel := by decide) : RReader σ :=
  rd.andThen (fun b => match p b with | some s => .ok s | none => .error e)
    (fun b h => by
      cases hp : p b with
      | none => rw [hp] at h; exact he (Except.error.inj h)
      | some s => rw [hp] at h; cases h)

def RReader.text : RReader String where
  run t _ evs := readText t evs
  regular :=
    { mono := fun _ _ _ _ => rfl
      noLonger := fun t _ evs v rest h => Nat.le_of_lt (readText_shorter t evs rest v h)
      enough := fun t _ evs _ => readText_ne_fuel t evs
      renames := fun hf t _ evs => readText_rename hf t evs
      trails := fun n t _ evs => .moved (readText_trail n t evs) }

def RReader.fail {σ} (e : Err) (he : e ≠ .fuel := by decide) : RReader σ where
  run _ _ _ := .error e
  regular :=
    { mono := fun _ _ _ _ => rfl
      noLonger := fun _ _ _ _ _ h => nomatch h
      enough := fun _ _ _ _ h => he (Except.error.inj h)
      renames := fun _ _ _ _ => rfl
      trails := fun _ _ _ _ => .same rfl }

def RReader.onAttrs {β σ : Type} (g : List AttrItem → Except Err β) (hg : ∀ l, g l ≠ .error .fuel) (rd : β → RReader σ) :
    RReader σ where
  run t fuel evs := match g t.attrs with
    | .ok b => (rd b).run t fuel evs
    | .error e => .error e
  regular :=
    { mono := fun t fuel evs h => by
        cases hb : g t.attrs with
        | error e => rfl
        | ok b => simp only [hb] at h ⊢; exact (rd b).regular.mono t fuel evs h
      noLonger := fun t fuel evs v rest h => by
        cases hb : g t.attrs with
        | error e => simp only [hb] at h; cases h
        | ok b => simp only [hb] at h; exact (rd b).regular.noLonger t fuel evs v rest h
      enough := fun t fuel evs hf h => by
        cases hb : g t.attrs with
        | error e => simp only [hb] at h; cases h; exact hg _ hb
        | ok b => simp only [hb] at h; exact (rd b).regular.enough t fuel evs hf h
      renames := fun hf t fuel evs => by
        simp only [renameTag_attrs]
        cases g t.attrs with
        | error e => rfl
        | ok b => exact (rd b).regular.renames hf t fuel evs
      trails := fun n t fuel evs => by
        cases g t.attrs with
        | error e => exact .same rfl
        | ok b => exact (rd b).regular.trails n t fuel evs }

/-- `_ = reader.read_to_end(..)`: never fails, and may leave as many events as it got (`Eof` stays) -/
def RReader.skipLenient : RReader Unit where
  run t _ evs := .ok ((), skipToEndLenient t.raw evs 0)
  regular :=
    { mono := fun _ _ _ _ => rfl
      noLonger := fun t _ evs _ _ h => by cases h; exact skipToEndLenient_length _ _ _
      enough := fun _ _ _ _ => nofun
      renames := fun {f} hf t _ evs => by
        show Except.ok ((), skipToEndLenient (f t.raw) _ 0) = _
        rw [skipToEndLenient_rename hf]; rfl
      trails := fun n t _ evs => by
        rcases skipToEndLenient_trail t.raw n evs 0 with h | h
        · exact .moved (by rw [h]; rfl)
        · exact .same (by rw [h]) }

theorem RReader.text_run (t : Tag) (fuel : Nat) (evs : List Ev) : RReader.text.run t fuel evs = readText t evs := rfl

theorem RReader.andThen_run {β σ : Type} (rd : RReader β) (g : β → Except Err σ) (hg) (t : Tag) (fuel : Nat) (evs : List Ev) :
    (rd.andThen g hg).run t fuel evs = (match rd.run t fuel evs with
      | .ok (b, r) => (match g b with | .ok s => .ok (s, r) | .error e => .error e)
      | .error e => .error e) := by
  show thenState g _ = _
  cases rd.run t fuel evs with
  | error e => rfl
  | ok p => rfl

theorem RReader.map_run {β σ : Type} (rd : RReader β) (g : β → σ) (t : Tag) (fuel : Nat) (evs : List Ev) :
    (rd.map g).run t fuel evs = (match rd.run t fuel evs with
      | .ok (b, r) => .ok (g b, r)
      | .error e => .error e) := by
  show thenState (fun b => .ok (g b)) (rd.run t fuel evs) = _
  cases rd.run t fuel evs with
  | error e => rfl
  | ok p => rfl

theorem RReader.parse_run {β σ : Type} (rd : RReader β) (p : β → Option σ) (e : Err) (he) (t : Tag) (fuel : Nat)
    (evs : List Ev) :
    (rd.parse p e he).run t fuel evs = (match rd.run t fuel evs with
      | .ok (b, r) => (match p b with | some s => .ok (s, r) | none => .error e)
      | .error e' => .error e') := by
  show thenState (fun b => match p b with | some s => .ok s | none => .error e) (rd.run t fuel evs) = _
  cases rd.run t fuel evs with
  | error e' => rfl
  | ok q => obtain ⟨b, r⟩ := q; simp only [thenState]; cases p b <;> rfl

theorem RReader.fail_run {σ : Type} (e : Err) (he) (t : Tag) (fuel : Nat) (evs : List Ev) :
    (RReader.fail (σ := σ) e he).run t fuel evs = .error e := rfl

theorem RReader.skipLenient_run (t : Tag) (fuel : Nat) (evs : List Ev) :
    RReader.skipLenient.run t fuel evs = .ok ((), skipToEndLenient t.raw evs 0) := rfl

theorem RReader.onAttrs_run {β σ : Type} (g : List AttrItem → Except Err β) (hg) (rd : β → RReader σ) (t : Tag)
    (fuel : Nat) (evs : List Ev) :
    (RReader.onAttrs g hg rd).run t fuel evs = (match g t.attrs with
      | .ok b => (rd b).run t fuel evs
      | .error e => .error e) := rfl

/-- what `Start` and `Empty` events do, by namespace resolution result, local name and state
(`(ResolveResult::Bound(ns), Event::Start(tag)) if ns == … && tag.local_name() == … && guard`) -/
structure Arms (σ : Type) where
  start : σ → Ns → String → Option (RReader σ)
  empty : σ → Ns → String → Option σ := fun _ _ _ => none

/-- where a loop runs: over the children of the element `endRaw` (`comment`: is there a `Comment`
arm), or over a whole message (`ServerMsg::from_xml`; `declArm`: is an XML declaration skipped) -/
inductive Level where
  | elem (endRaw : String) (comment : Bool := true)
  | doc (declArm : Bool)

/-- the arms that are `continue` -/
def Level.skips (lvl : Level) : Ev → Bool
  | .comment => (match lvl with | .elem _ c => c | .doc _ => true)
  | .decl => (match lvl with | .elem .. => false | .doc d => d)
  | _ => false

/-- the arm that leaves the loop with the value the state amounts to (`fin`) -/
def Level.ends (lvl : Level) : Ev → Bool
  | .end raw => (match lvl with | .elem endRaw _ => raw == endRaw | .doc _ => false)
  | .eof => (match lvl with | .elem .. => false | .doc _ => true)
  | .text s => (match lvl with | .elem .. => false | .doc _ => s == MARKER)
  | _ => false

def Level.rename (f : String → String) : Level → Level
  | .elem endRaw c => .elem (f endRaw) c
  | .doc d => .doc d

/-- `fuel` is decremented once per iteration, as in the model loops -/
def readLoop {σ α : Type} (A : Arms σ) (fin : σ → Except Err α) :
    Nat → Level → σ → List Ev → Except Err (α × List Ev)
  | 0, _, _, _ => .error .fuel
  | _ + 1, _, _, [] => .error .xml
  | fuel + 1, lvl, st, ev :: rest =>
    if lvl.skips ev then readLoop A fin fuel lvl st rest
    else if lvl.ends ev then (match fin st with | .ok v => .ok (v, rest) | .error e => .error e)
    else match ev with
      | .error => .error .xml
      | .start t =>
        (match A.start st t.ns t.lname with
         | some rd => (match rd.run t fuel rest with
            | .ok (st', r) => readLoop A fin fuel lvl st' r
            | .error e => .error e)
         | none => .error .unexpected)
      | .empty t =>
        (match A.empty st t.ns t.lname with
         | some st' => readLoop A fin fuel lvl st' rest
         | none => .error .unexpected)
      | _ => .error .unexpected

theorem Level.skips_rename (f : String → String) (lvl : Level) (ev : Ev) :
    (lvl.rename f).skips (renameEv f ev) = lvl.skips ev := by
  cases ev <;> cases lvl <;> rfl

theorem Level.ends_rename {f : String → String} (hf : Inj f) (lvl : Level) (ev : Ev) :
    (lvl.rename f).ends (renameEv f ev) = lvl.ends ev := by
  cases ev <;> cases lvl <;> simp only [Level.rename, renameEv, Level.ends, hf.beq]

theorem Level.skips_eof (lvl : Level) : lvl.skips .eof = false := by simp only [Level.skips]

variable {σ α : Type} {A : Arms σ} {fin : σ → Except Err α}

/-! `readLoop_zero` below, and `Level.skips_eof` and `Level.ends_rename` above, are proved by `simp only` with the
definition so that the equations Lean derives for `readLoop`, `Level.skips` and `Level.ends` are derived in this
module: if no proof here asks for them, each proof downstream that unfolds one of the three derives them again
(each of the twelve agreement proofs of `Lemmas/ReaderLoops.lean`, at several times its own cost). -/

theorem readLoop_zero (lvl : Level) (st : σ) (evs : List Ev) : readLoop A fin 0 lvl st evs = .error .fuel := by
  simp only [readLoop]

/-- the body as one equation (the equations Lean derives split on the event) -/
theorem readLoop_cons (fuel : Nat) (lvl : Level) (st : σ) (ev : Ev) (rest : List Ev) :
    readLoop A fin (fuel + 1) lvl st (ev :: rest) =
      if lvl.skips ev then readLoop A fin fuel lvl st rest
      else if lvl.ends ev then (match fin st with | .ok v => .ok (v, rest) | .error e => .error e)
      else match ev with
        | .error => .error .xml
        | .start t =>
          (match A.start st t.ns t.lname with
           | some rd => (match rd.run t fuel rest with
              | .ok (st', r) => readLoop A fin fuel lvl st' r
              | .error e => .error e)
           | none => .error .unexpected)
        | .empty t =>
          (match A.empty st t.ns t.lname with
           | some st' => readLoop A fin fuel lvl st' rest
           | none => .error .unexpected)
        | _ => .error .unexpected := by
  rw [readLoop.eq_def]

/-- the catch-all arm `_ => Err(UnexpectedXmlEvent)` of a loop over the children of an element, in the form in which
`fun_induction` on a model loop hands it over: the event is none of those the arms above take -/
theorem readLoop_elem_other {fuel : Nat} {endRaw : String} {cm : Bool} {st : σ} {ev : Ev} {rest : List Ev} (herror : ev ≠ .error)
    (hstart : ∀ t, ev ≠ .start t) (hcomment : ev ≠ .comment) (hend : ∀ raw, ev ≠ .end raw)
    (hempty : ∀ t, ev = .empty t → A.empty st t.ns t.lname = none) :
    readLoop A fin (fuel + 1) (.elem endRaw cm) st (ev :: rest) = .error .unexpected := by
  cases ev with
  | error => exact absurd rfl herror
  | start t => exact absurd rfl (hstart t)
  | comment => exact absurd rfl hcomment
  | «end» raw => exact absurd rfl (hend raw)
  | empty t => simp only [readLoop_cons, Level.skips, Level.ends, hempty t rfl, Bool.false_eq_true, if_false]
  | _ => rfl

/-! `fun_induction readLoop` numbers its cases by the branches of the definition: 1 no fuel, 2 no events, 3 a
skipped event, 4 / 5 the loop ends and `fin` gives a value / fails, 6 `Event::Error`, 7 / 8 `Start` whose reader
succeeds / fails, 9 `Start` without an arm, 10 / 11 `Empty` with / without an arm, 12 any other event.
`readLoop_mono` and `readLoop_good` speak of one call of the loop and go by these cases; `readLoop_rename` and
`readLoop_trail` compare two calls on different lists, so they unfold both by `readLoop_cons` and split once. -/

theorem readLoop_mono (fuel : Nat) (lvl : Level) (st : σ) (evs : List Ev)
    (h : readLoop A fin fuel lvl st evs ≠ .error .fuel) :
    readLoop A fin (fuel + 1) lvl st evs = readLoop A fin fuel lvl st evs := by
  fun_induction readLoop A fin fuel lvl st evs with
  | case1 => exact absurd rfl h  -- no fuel
  | case2 => rfl
  | case3 fuel lvl st ev rest hs ih => rw [readLoop_cons, if_pos hs]; exact ih h
  | case4 fuel lvl st ev rest hs he s hfe => rw [readLoop_cons, if_neg hs, if_pos he, hfe]
  | case5 fuel lvl st ev rest hs he e hfe => rw [readLoop_cons, if_neg hs, if_pos he, hfe]
  | case6 => rfl
  | case7 fuel lvl st rest t rd hst st' r hr hs he ih =>  -- `Start`, the reader succeeds
    rw [readLoop_cons, if_neg hs, if_neg he]
    simp only [hst]
    rw [rd.regular.mono t fuel rest (by rw [hr]; exact nofun), hr]
    exact ih h
  | case8 fuel lvl st rest t rd hst e hr hs he =>  -- `Start`, the reader fails
    rw [readLoop_cons, if_neg hs, if_neg he]
    simp only [hst]
    rw [rd.regular.mono t fuel rest (by rw [hr]; exact fun h' => h (by cases h'; rfl)), hr]
  | case9 fuel lvl st rest t hst hs he => rw [readLoop_cons, if_neg hs, if_neg he]; simp only [hst]
  | case10 fuel lvl st rest t s hst hs he ih => rw [readLoop_cons, if_neg hs, if_neg he]; simp only [hst]; exact ih h
  | case11 fuel lvl st rest t hst hs he => rw [readLoop_cons, if_neg hs, if_neg he]; simp only [hst]
  | case12 fuel lvl st ev rest hs he herror hstart hempty =>
    rw [readLoop_cons, if_neg hs, if_neg he]
    cases ev with
    | error => exact absurd rfl herror
    | start t => exact absurd rfl (hstart t)
    | empty t => exact absurd rfl (hempty t)
    | _ => rfl

theorem readLoop_good (hfin : ∀ st, fin st ≠ .error .fuel) (fuel : Nat) (lvl : Level) (st : σ) (evs : List Ev) :
    Good evs fuel (readLoop A fin fuel lvl st evs) := by
  fun_induction readLoop A fin fuel lvl st evs with
  | case1 => exact .zero
  | case3 fuel lvl st ev rest hs ih => exact ih.step (Nat.lt_succ_self _)  -- a skipped event
  | case4 => exact .ok (Nat.lt_succ_self _)  -- the loop ends with a value
  | case5 fuel lvl st ev rest hs he e hfe => exact .error fun h => hfin st (h ▸ hfe)  -- the loop ends, `fin` fails
  | case7 fuel lvl st rest t rd hst st' r hr hs he ih =>  -- `Start`, the reader succeeds
    exact ih.step (Nat.lt_succ_of_le (rd.regular.noLonger t fuel rest st' r hr))
  | case8 fuel lvl st rest t rd hst e hr hs he =>  -- `Start`, the reader fails
    exact .failed' (rd.regular.enough t fuel rest) hr
  | case10 fuel lvl st rest t s hst hs he ih => exact ih.step (Nat.lt_succ_self _)  -- `Empty` with an arm
  | _ => exact .error nofun  -- the other cases are errors that are not `Err.fuel`

theorem readLoop_rename {f : String → String} (hf : Inj f) (fuel : Nat) (lvl : Level) (st : σ) (evs : List Ev) :
    readLoop A fin fuel (lvl.rename f) st (renameEvs f evs) = mapRest f (readLoop A fin fuel lvl st evs) := by
  induction fuel generalizing st evs with
  | zero => rfl
  | succ k ih =>
    cases evs with
    | nil => rfl
    | cons ev rest =>
      rw [renameEvs_cons, readLoop_cons, readLoop_cons, Level.skips_rename, Level.ends_rename hf]
      by_cases hs : lvl.skips ev = true
      · rw [if_pos hs, if_pos hs]
        exact ih st rest
      rw [if_neg hs, if_neg hs]
      by_cases he : lvl.ends ev = true
      · rw [if_pos he, if_pos he]
        cases fin st <;> rfl
      rw [if_neg he, if_neg he]
      cases ev with
      | start t =>
        simp only [renameEv, renameTag_ns, renameTag_lname]
        cases A.start st t.ns t.lname with
        | none => rfl
        | some rd =>
          simp only [rd.regular.renames hf]
          cases rd.run t k rest with
          | error e => rfl
          | ok p => exact ih p.1 p.2
      | empty t =>
        simp only [renameEv, renameTag_ns, renameTag_lname]
        cases A.empty st t.ns t.lname with
        | none => rfl
        | some s => exact ih s rest
      | _ => rfl

/-- on `n` comments and `Eof` a loop runs out of fuel or ends as it ends on `Eof` alone: it skips the comments (or
rejects the first one, and `Eof` then as well), and `Eof` is never skipped, so that on `[Eof]` any positive fuel
gives what fuel 1 gives -/
theorem readLoop_comments (fuel : Nat) (lvl : Level) (st : σ) (n : Nat) :
    readLoop A fin fuel lvl st (comments n ++ [.eof]) = .error .fuel ∨
    readLoop A fin fuel lvl st (comments n ++ [.eof]) = readLoop A fin 1 lvl st [.eof] := by
  induction n generalizing fuel with
  | zero =>
    cases fuel with
    | zero => exact .inl (readLoop_zero ..)
    | succ k =>
      right
      show readLoop A fin (k + 1) lvl st [.eof] = _
      simp only [readLoop_cons, Level.skips_eof, Bool.false_eq_true, if_false]
  | succ n ih =>
    cases fuel with
    | zero => exact .inl (readLoop_zero ..)
    | succ k =>
      rw [comments_succ, List.cons_append, readLoop_cons]
      by_cases hs : lvl.skips .comment = true
      · rw [if_pos hs]
        exact ih k
      · cases lvl with  -- not skipped: `lvl` is `.elem r false`, and both sides are `.error .unexpected`
        | doc d => exact absurd rfl hs
        | elem r c =>
          cases c with
          | true => exact absurd rfl hs
          | false => exact .inr rfl

theorem readLoop_trail (n fuel : Nat) (lvl : Level) (st : σ) (evs : List Ev) :
    Trails n (readLoop A fin fuel lvl st (trailMisc n evs)) (readLoop A fin fuel lvl st evs) := by
  induction fuel generalizing st evs with
  | zero => exact .fuel rfl
  | succ k ih =>
    cases evs with
    | nil => exact .same rfl
    | cons ev rest =>
      by_cases hev : ev = .eof
      · subst hev
        cases rest with
        | nil =>
          rcases readLoop_comments (A := A) (fin := fin) (k + 1) lvl st n with h | h
          · exact .fuel h
          · exact .same (h.trans (by simp only [readLoop_cons, Level.skips_eof, Bool.false_eq_true, if_false]))
        | cons e r =>
          simp only [trailMisc_cons_cons, readLoop_cons, Level.skips_eof, Bool.false_eq_true, if_false]
          split
          · cases fin st with
            | ok v => exact .moved rfl
            | error e => exact .same rfl
          · exact .same rfl
      rw [trailMisc_cons_ne _ _ _ hev, readLoop_cons, readLoop_cons]
      by_cases hs : lvl.skips ev = true
      · rw [if_pos hs, if_pos hs]
        exact ih st rest
      rw [if_neg hs, if_neg hs]
      by_cases he : lvl.ends ev = true
      · rw [if_pos he, if_pos he]
        cases fin st with
        | ok v => exact .moved rfl
        | error e => exact .same rfl
      rw [if_neg he, if_neg he]
      cases ev with
      | start t =>
        dsimp only
        cases A.start st t.ns t.lname with
        | none => exact .same rfl
        | some rd =>
          cases rd.regular.trails n t k rest with
          | fuel h => simp only [h]; exact .fuel rfl
          | moved h =>
            simp only [h]
            cases rd.run t k rest with
            | error e => exact .same rfl
            | ok p => exact ih p.1 p.2
          | same h => simp only [h]; exact .same rfl
      | empty t =>
        dsimp only
        cases A.empty st t.ns t.lname with
        | none => exact .same rfl
        | some s => exact ih s rest
      | _ => exact .same rfl

/-- a loop over the children of an element is a reader of that element -/
def RReader.elem (A : Arms σ) (fin : σ → Except Err α) (hfin : ∀ st, fin st ≠ .error .fuel) (st₀ : σ)
    (comment : Bool := true) : RReader α where
  run t fuel evs := readLoop A fin fuel (.elem t.raw comment) st₀ evs
  regular :=
    { mono := fun _ fuel evs h => readLoop_mono fuel _ st₀ evs h
      noLonger := fun _ fuel evs _ _ h => Nat.le_of_lt ((readLoop_good hfin fuel _ st₀ evs).shorter h)
      enough := fun _ fuel evs hf => (readLoop_good hfin fuel _ st₀ evs).enough hf
      renames := fun hf t fuel evs => readLoop_rename hf fuel (.elem t.raw comment) st₀ evs
      trails := fun n _ fuel evs => readLoop_trail n fuel _ st₀ evs }

theorem RReader.elem_run (A : Arms σ) (fin : σ → Except Err α) (hfin) (st₀ : σ) (comment : Bool) (t : Tag) (fuel : Nat)
    (evs : List Ev) :
    (RReader.elem A fin hfin st₀ comment).run t fuel evs = readLoop A fin fuel (.elem t.raw comment) st₀ evs := rfl

/-! ### a loop over a whole message: only its value counts -/

def valueOf {α : Type} : Except Err (α × List Ev) → Except Err α
  | .ok (v, _) => .ok v
  | .error e => .error e

def readDoc (A : Arms σ) (fin : σ → Except Err α) (declArm : Bool) (fuel : Nat) (st : σ) (evs : List Ev) : Except Err α :=
  valueOf (readLoop A fin fuel (.doc declArm) st evs)

variable {declArm : Bool}

/-- the catch-all arm of a loop over a whole message, as `readLoop_elem_other` -/
theorem readDoc_other {fuel : Nat} {st : σ} {ev : Ev} {rest : List Ev} (herror : ev ≠ .error)
    (hstart : ∀ t, ev ≠ .start t) (hcomment : ev ≠ .comment) (hdecl : ev ≠ .decl) (heof : ev ≠ .eof)
    (htext : ∀ s, ev ≠ .text s) (hempty : ∀ t : Tag, A.empty st t.ns t.lname = none) :
    readDoc A fin declArm (fuel + 1) st (ev :: rest) = .error .unexpected := by
  unfold readDoc
  cases ev with
  | error => exact absurd rfl herror
  | start t => exact absurd rfl (hstart t)
  | comment => exact absurd rfl hcomment
  | decl => exact absurd rfl hdecl
  | eof => exact absurd rfl heof
  | text s => exact absurd rfl (htext s)
  | empty t => simp only [readLoop_cons, Level.skips, Level.ends, hempty t, Bool.false_eq_true, if_false, valueOf]
  | _ => rfl

theorem valueOf_fuel {x : Except Err (α × List Ev)} (h : valueOf x = .error .fuel) : x = .error .fuel := by
  cases x with
  | error e => cases Except.error.inj h; rfl
  | ok p => cases h

theorem valueOf_mapEvs (h : List Ev → List Ev) (x : Except Err (α × List Ev)) : valueOf (mapEvs h x) = valueOf x := by
  cases x with
  | error e => rfl
  | ok p => rfl

theorem readDoc_total (hfin : ∀ st, fin st ≠ .error .fuel) (fuel : Nat) (st : σ) (evs : List Ev)
    (hf : evs.length < fuel) : readDoc A fin declArm fuel st evs ≠ .error .fuel :=
  fun h => (readLoop_good hfin fuel _ st evs).enough hf (valueOf_fuel h)

theorem readDoc_mono_add (fuel : Nat) (st : σ) (evs : List Ev)
    (h : readDoc A fin declArm fuel st evs ≠ .error .fuel) (n : Nat) :
    readDoc A fin declArm (fuel + n) st evs = readDoc A fin declArm fuel st evs := by
  induction n with
  | zero => rfl
  | succ n ih =>
    have : readLoop A fin (fuel + n) (.doc declArm) st evs ≠ .error .fuel :=
      fun h' => h (by rw [← ih, readDoc, h']; rfl)
    rw [← ih]
    exact congrArg valueOf (readLoop_mono _ _ st evs this)

theorem readDoc_rename {f : String → String} (hf : Inj f) (fuel : Nat) (st : σ) (evs : List Ev) :
    readDoc A fin declArm fuel st (renameEvs f evs) = readDoc A fin declArm fuel st evs := by
  have := readLoop_rename (A := A) (fin := fin) hf fuel (.doc declArm) st evs
  simp only [Level.rename] at this
  rw [readDoc, this, mapRest_eq, valueOf_mapEvs]; rfl

/-- with the fuel `readMessage` and `establish` give their loops (the length of the list + 1): comments in
front of the final `Eof` make no difference. The list with the insertion gets more fuel than `evs` does, which
`readDoc_mono_add` evens out; it suffices (`readDoc_total`), so the `fuel` case of `Trails` does not arise -/
theorem readDoc_trail (hfin : ∀ st, fin st ≠ .error .fuel) (n : Nat) (st : σ) (evs : List Ev) :
    readDoc A fin declArm ((trailMisc n evs).length + 1) st (trailMisc n evs)
      = readDoc A fin declArm (evs.length + 1) st evs := by
  obtain ⟨d, hd⟩ : ∃ d, (trailMisc n evs).length + 1 = evs.length + 1 + d :=
    ⟨(trailMisc n evs).length - evs.length, by have := length_le_trailMisc n evs; omega⟩
  have h1 := readDoc_total (A := A) (declArm := declArm) hfin _ st (trailMisc n evs) (Nat.lt_succ_self _)
  rw [← readDoc_mono_add _ st evs (readDoc_total hfin _ st evs (Nat.lt_succ_self _)) d, ← hd]
  cases readLoop_trail (A := A) (fin := fin) n ((trailMisc n evs).length + 1) (.doc declArm) st evs with
  | fuel h => exact absurd (congrArg valueOf h) h1
  | moved h => rw [readDoc, h, valueOf_mapEvs]; rfl
  | same h => rw [readDoc, h]; rfl

theorem readDoc_skip (ev : Ev) (h : (Level.doc declArm).skips ev = true) (st : σ) (evs : List Ev) :
    readDoc A fin declArm ((ev :: evs).length + 1) st (ev :: evs) = readDoc A fin declArm (evs.length + 1) st evs := by
  simp only [List.length_cons, readDoc, readLoop_cons, h, if_true]

theorem readDoc_lead (n : Nat) (st : σ) (evs : List Ev) :
    readDoc A fin declArm ((comments n ++ evs).length + 1) st (comments n ++ evs)
      = readDoc A fin declArm (evs.length + 1) st evs := by
  induction n with
  | zero => rw [comments_zero, List.nil_append]
  | succ n ih => rw [← ih]; exact readDoc_skip .comment rfl st _

end Xml
