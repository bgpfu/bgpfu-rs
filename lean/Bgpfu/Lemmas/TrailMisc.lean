import Bgpfu.Lemmas.Totality
import Bgpfu.Spec.ConfigGrammar
/-!
`Misc*` after the root element (C13): comments between the root's end tag and the end of input.
`trailMisc n` inserts `n` comments in front of the final `Eof` of an event list; here is what
`read_to_end` and `read_text` make of the insertion. (A reader that meets the final `Eof` inside the root
element fails on it, with and without the insertion, since only the message-level loops accept `Eof` - or, like
the `read_to_end` of phase 1 whose failure is ignored, gives up and leaves `Eof` where it is:
`skipToEndLenient_trail`. In both cases its result is the same for `evs` and `trailMisc n evs`.)
-/
namespace Xml

/-- a list that does not end in `Eof` is left alone -/
def trailMisc (n : Nat) : List Ev → List Ev
  | [] => []
  | [.eof] => comments n ++ [.eof]
  | e :: rest => e :: trailMisc n rest

@[simp] theorem trailMisc_nil (n : Nat) : trailMisc n [] = [] := rfl
@[simp] theorem trailMisc_eof_nil (n : Nat) : trailMisc n [.eof] = comments n ++ [.eof] := rfl
@[simp] theorem trailMisc_cons_cons (n : Nat) (e e' : Ev) (rest : List Ev) :
    trailMisc n (e :: e' :: rest) = e :: trailMisc n (e' :: rest) := by
  cases e <;> rfl
theorem trailMisc_cons_ne (n : Nat) (e : Ev) (rest : List Ev) (h : e ≠ .eof) :
    trailMisc n (e :: rest) = e :: trailMisc n rest := by
  cases rest with
  | nil => cases e <;> first | rfl | exact absurd rfl h
  | cons e' r => simp

theorem trailMisc_append_eof (n : Nat) (body : List Ev) :
    trailMisc n (body ++ [.eof]) = body ++ comments n ++ [.eof] := by
  induction body with
  | nil => simp
  | cons e r ih =>
    cases r with
    | nil => simp
    | cons e' r' => simp only [List.cons_append] at ih ⊢; rw [trailMisc_cons_cons, ih]

theorem trailMisc_length (n : Nat) (evs : List Ev) : (trailMisc n evs).length ≤ evs.length + n := by
  induction evs with
  | nil => simp
  | cons e r ih =>
    cases r with
    | nil => cases e <;> simp [trailMisc_cons_ne, comments] <;> omega
    | cons e' r' => simp only [trailMisc_cons_cons, List.length_cons] at ih ⊢; omega

theorem length_le_trailMisc (n : Nat) (evs : List Ev) : evs.length ≤ (trailMisc n evs).length := by
  induction evs with
  | nil => simp
  | cons e r ih =>
    cases r with
    | nil => cases e <;> simp [trailMisc_cons_ne, comments]
    | cons e' r' => simp only [trailMisc_cons_cons, List.length_cons] at ih ⊢; omega

abbrev mapTrail {α} (n : Nat) : Except Err (α × List Ev) → Except Err (α × List Ev) := mapEvs (trailMisc n)

@[simp] theorem comments_zero : comments 0 = [] := rfl
@[simp] theorem comments_succ (n : Nat) : comments (n + 1) = .comment :: comments n := rfl

theorem skipToEnd_comments (name : String) (n : Nat) (tail : List Ev) (d : Nat) :
    skipToEnd name (comments n ++ .eof :: tail) d = .error .xml := by
  induction n with
  | zero => rfl
  | succ n ih => exact ih

theorem skipToEnd_trail (name : String) (n : Nat) (evs : List Ev) (d : Nat) :
    skipToEnd name (trailMisc n evs) d = (match skipToEnd name evs d with
      | .ok r => .ok (trailMisc n r) | .error e => .error e) := by
  induction evs generalizing d with
  | nil => rfl
  | cons ev rest ih =>
    by_cases he : ev = .eof
    · subst he
      cases rest with
      | nil => rw [trailMisc_eof_nil, skipToEnd_comments]; rfl
      | cons e' r => rfl
    · rw [trailMisc_cons_ne _ _ _ he, skipToEnd_cons, skipToEnd_cons]
      cases ev.kind name with
      | error => rfl
      | eof => rfl
      | opens => exact ih _
      | closes =>
        cases d with
        | zero => rfl
        | succ d => exact ih _
      | other => exact ih _

theorem readText_trail (n : Nat) (t : Tag) (rest : List Ev) :
    readText t (trailMisc n rest) = mapTrail n (readText t rest) := by
  simp only [readText, skipToEnd_trail]
  cases skipToEnd t.raw rest 0 with
  | error e => rfl
  | ok r => cases t.span <;> rfl

theorem skipToEndLenient_comments (name : String) (n : Nat) (tail : List Ev) (d : Nat) :
    skipToEndLenient name (comments n ++ .eof :: tail) d = .eof :: tail := by
  induction n with
  | zero => rfl
  | succ n ih => exact ih

/-- phase 1's lenient skip either stops inside the list (and commutes with the insertion) or runs
into the final `Eof`, which it leaves in place -/
theorem skipToEndLenient_trail (name : String) (n : Nat) (evs : List Ev) (d : Nat) :
    skipToEndLenient name (trailMisc n evs) d = trailMisc n (skipToEndLenient name evs d) ∨
    skipToEndLenient name (trailMisc n evs) d = skipToEndLenient name evs d := by
  induction evs generalizing d with
  | nil => exact .inr rfl
  | cons ev rest ih =>
    by_cases he : ev = .eof
    · subst he
      cases rest with
      | nil => right; rw [trailMisc_eof_nil, skipToEndLenient_comments]; rfl
      | cons e' r => left; rw [trailMisc_cons_cons]; rfl
    · rw [trailMisc_cons_ne _ _ _ he, skipToEndLenient_cons, skipToEndLenient_cons]
      cases hk : ev.kind name with
      | error => exact .inl rfl
      | eof => exact absurd (Ev.kind_eof hk) he
      | opens => exact ih _
      | closes =>
        cases d with
        | zero => exact .inl rfl
        | succ d => exact ih _
      | other => exact ih _

end Xml
