import Bgpfu.Lemmas.Builders
/-! Request-level converse of C09: for every wire request the builder API can express (`callsFor`),
if the RFC table permits it under the advertised capabilities, the canonical call sequence builds
exactly that request, whatever the configuration. Proved by running the builders on the explicit call
lists; each check passes by the table entry of its parameter. -/
namespace Builders
open Caps Rfc

theorem run_eq {cfg ctx b o} (hop : (requiredCapabilities b).check ctx.caps = true)
    (hr : runBuilder cfg ctx b = .ok o) : build cfg ctx b = .ok (render o) :=
  (build_ok_iff ..).2 ⟨hop, o, hr, rfl⟩

theorem check_none (caps) : Requirements.none.check caps = true := rfl

-- `build` down to the builder's calls and `write_xml`
attribute [local simp] check_none build operationNew requiredCapabilities runBuilder thenFinish foldCalls require
  render renderSource
-- the checks of operation/mod.rs and commit.rs
attribute [local simp] tryAsTarget tryAsSource tryAsLockTarget Commit.tryUse
-- the builders: `new`, the methods, `finish`
attribute [local simp]
  Get.new Get.step Get.filter Get.finish
  GetConfig.new GetConfig.step GetConfig.source GetConfig.filter GetConfig.finish
  EditConfig.new EditConfig.step EditConfig.target EditConfig.config EditConfig.url EditConfig.defaultOperation
  EditConfig.errorOption EditConfig.testOption EditConfig.finish
  CopyConfig.new CopyConfig.step CopyConfig.target CopyConfig.source CopyConfig.config CopyConfig.finish
  DeleteConfig.new DeleteConfig.step DeleteConfig.target DeleteConfig.url DeleteConfig.finish
  Lock.new Lock.step Lock.target Lock.finishLock Lock.finishUnlock
  KillSession.new KillSession.step KillSession.sessionId KillSession.finish
  Commit.new Commit.step Commit.confirmed Commit.confirmTimeout Commit.persist Commit.persistId Commit.finish
  CancelCommit.new CancelCommit.step CancelCommit.persistId CancelCommit.finish
  Validate.new Validate.step Validate.source Validate.config Validate.finish
  OpenConfiguration.new OpenConfiguration.step OpenConfiguration.priv OpenConfiguration.ephemeral
  OpenConfiguration.finish
  LoadConfiguration.new LoadConfiguration.step LoadConfiguration.source LoadConfiguration.finish

/-- commit-configuration: no call can fail; `write_xml` gives the minutes back (`Timeout::minutes` rounds up, the
canonical calls pass whole minutes) and elides the default of 600 s, which `callsFor` never asks for explicitly -/
theorem request_buildable_commitConfiguration {cfg caps sid ck atT cf tm log sy b}
    (hb : callsFor (.junos (.commitConfiguration ck atT cf tm log sy)) = some b)
    (hop : (Requirements.one .junos).check caps = true) :
    build cfg ⟨caps, sid⟩ b = .ok (.junos (.commitConfiguration ck atT cf tm log sy)) := by
  unfold callsFor at hb
  dsimp only at hb
  split at hb
  · cases hb
  next hne =>
  cases hb
  simp only [not_or, not_and, Bool.not_eq_false] at hne
  refine (run_eq (o := .commitConfiguration ck atT (if cf then some (tm.elim defaultTimeout (· * 60)) else none) log sy)
    (by exact hop) ?_).trans ?_
  · rcases atT with _ | _ | _ | _ <;> cases cf <;> cases tm <;> cases log <;> cases sy <;> rfl
  · cases cf with
    | false => cases tm with
      | none => rfl
      | some m => cases hne.1 rfl
    | true => cases tm with
      | none => rfl
      | some m =>
        have h10 : m ≠ 10 := fun h => hne.2 (h ▸ rfl)
        have h600 : ¬ m * 60 = 600 := by omega
        have h60 : (m * 60 + 59) / 60 = m := by omega
        simp [defaultTimeout, h600, h60]

/-- what `write_xml` does with an option whose default it elides, when the default was not asked for explicitly -/
theorem elide_getD {α : Type} [DecidableEq α] {o : Option α} {d : α} (h : o ≠ some d) :
    (if o.getD d = d then none else some (o.getD d)) = o := by
  cases o <;> simp_all

theorem request_buildable (cfg : Cfg) (caps : List Capability) (sid : Nat) (r : Request) (b : Build)
    (hb : callsFor r = some b)
    (hk : ∀ n, r = .killSession n → n ≠ 0 ∧ n ≠ sid)
    (hp : allOk caps (requiresL r) = true) :
    build cfg ⟨caps, sid⟩ b = .ok r := by
  have hfilter := fun op f h => (filterOptTryUse_ok_iff (ctx := ⟨caps, sid⟩) (f := f) op).2 ⟨rfl, h⟩
  have hurl := fun u (h : allOk caps [("", .urlScheme u)] = true) =>
    urlTryNew_ok_iff (ctx := ⟨caps, sid⟩).2 ⟨rfl, (allOk_singleton ..).symm.trans h⟩
  cases r with
  | get f => cases hb; simp [hfilter "get" f hp]
  | getConfig s f =>
    cases s <;> cases hb
    simp only [requiresL, allOk_append, Bool.and_eq_true, allOk_getConfigSourceReqs] at hp
    simp [hp.1, hfilter "get-config" f hp.2]
  | editConfig t dop eo to c =>
    cases t <;> try cases hb
    unfold callsFor at hb
    dsimp only at hb
    split at hb
    · cases hb
    next hne =>
    cases hb
    simp only [requiresL, allOk_append, allOk_editTargetReqs, Bool.and_eq_true, bne_iff_ne] at hp
    obtain ⟨⟨⟨⟨ht2, ht1⟩, he⟩, hto⟩, hc⟩ := hp
    -- an optional parameter: no call, or the one call, whose check passes
    have hD : ∀ s, foldCalls (EditConfig.step cfg ⟨caps, sid⟩) s (optList dop .defaultOperation)
        = .ok { s with defaultOp := dop.getD s.defaultOp } := fun s => by cases dop <;> rfl
    have hE : ∀ s, foldCalls (EditConfig.step cfg ⟨caps, sid⟩) s (optList eo .errorOption)
        = .ok { s with errorOpt := eo.getD s.errorOpt } := fun s => by
      cases eo <;> simp [optList, ← allOk_errorOptReqs, he]
    have hT : ∀ s, foldCalls (EditConfig.step cfg ⟨caps, sid⟩) s (optList to .testOption)
        = .ok { s with testOpt := to.getD s.testOpt } := fun s => by
      cases to <;> simp [optList, ← allOk_testOptReqs, hto]
    have hc : ∀ u, c = .url u → urlTryNew ⟨caps, sid⟩ (some u) = .ok u := fun u h => hurl u (by subst h; exact hc)
    simp only [not_or] at hne
    -- `write_xml` elides exactly the defaults, and `callsFor` refused explicit defaults (`elide_getD`)
    cases c <;>
      simp [foldCalls_append, hD, hE, hT, Except.bind, ht1, ht2, hc, elide_getD hne.1, elide_getD hne.2.1,
        elide_getD hne.2.2]
  | copyConfig t s =>
    cases t <;> cases s <;> cases hb <;>
      simp only [requiresL, allOk_append, Bool.and_eq_true, allOk_copyTargetReqs, allOk_sourceReqs] at hp <;> simp [hp.1, hp.2]
  | deleteConfig t =>
    cases t <;> cases hb
    · simp only [requiresL, allOk_deleteTargetReqs, Bool.and_eq_true, beq_iff_eq] at hp
      obtain ⟨rfl, hp⟩ := hp
      simp [hp]
    · simp [hurl _ hp]
  | lock t => cases t <;> cases hb; simp [(allOk_lockTargetReqs ..).symm.trans hp]
  | unlock t => cases t <;> cases hb; simp [(allOk_lockTargetReqs ..).symm.trans hp]
  | killSession n =>
    cases hb
    obtain ⟨h0, hs⟩ := hk n rfl
    simp [h0, hs]
  | commit c t p pid =>
    simp only [requiresL, allOk_cons, allOk_commitParamReqs, Bool.and_eq_true, Bool.or_eq_true, Bool.not_eq_eq_eq_not,
      Bool.not_true] at hp
    obtain ⟨hop, ⟨⟨hc, -⟩, hp⟩, hpid⟩ := hp
    have hop : (Requirements.one .candidate).check caps = true := hop
    -- the entries of the table are the code's requirements by unfolding, as said at `Commit.step_inv`
    have hper : p.isSome = true → Commit.persistReq.check caps = true := fun h => hp.resolve_left (by simp [h])
    have hperId : pid.isSome = true → Commit.persistReq.check caps = true := fun h => hpid.resolve_left (by simp [h])
    cases c with
    | false =>
      cases t <;> cases p <;> cases hb
      cases pid <;> simp [hop, hperId, optList]
    | true =>
      have hca : Commit.confirmedReq.check caps = true := hc.resolve_left nofun
      cases pid with
      | some _ => cases t <;> cases p <;> cases hb
      | none =>
        unfold callsFor at hb
        dsimp only at hb
        split at hb
        · cases hb
        next hne =>
        cases hb
        cases t with
        | none => cases p <;> simp [hop, hca, hper, optList]
        | some n =>
          have hn : ¬ n = defaultTimeout := fun h => hne (h ▸ rfl)
          cases p <;> simp [hop, hca, hper, hn, optList]
  | cancelCommit pid =>
    cases hb
    have hop : (Requirements.one .confirmedCommit11).check caps = true := (allOk_singleton ..).symm.trans hp
    cases pid <;> simp [hop, optList]
  | discardChanges =>
    cases hb
    have hop : (Requirements.one .candidate).check caps = true := (allOk_singleton ..).symm.trans hp
    simp [hop]
  | validate s =>
    simp only [requiresL, allOk_cons, Bool.and_eq_true] at hp
    have hop : (Requirements.any [.validate10, .validate11]).check caps = true := hp.1
    cases s <;> cases hb
    · simp [hop, (allOk_sourceReqs "validate" caps _).symm.trans hp.2]
    · simp [hop]
  | closeSession => cases hb; simp
  | junos j =>
    have hop : (Requirements.one .junos).check caps = true := (allOk_singleton ..).symm.trans hp
    cases j with
    | openConfiguration t => cases t <;> cases hb <;> simp [hop]
    | loadConfiguration s => cases s <;> cases hb <;> simp [hop]
    | commitConfiguration ck atT cf tm log sy =>
      exact request_buildable_commitConfiguration hb hop
    | _ => cases hb; simp [hop]
end Builders
