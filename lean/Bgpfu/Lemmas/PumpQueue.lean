import Bgpfu.Lemmas.Framing
/-! The SSH pump with its bounded queue and the consumer (C06). One invariant, `PQ.Inv`, ties every reachable state
to the output of the unbounded `pump`; a measure of the work left, which no step raises and every step of an enabled
party lowers, gives delivery under any fair schedule. -/
namespace Framing

def PQ.future (s : PQ) : List (List Byte) := (pump .fixed s.evs s.buf).1

/-- how the task will end: as the unbounded pump does on the events left while it runs, as it has once it has ended -/
def PQ.fate (s : PQ) : PumpEnd := if s.st = .running then (pump .fixed s.evs s.buf).2.2 else s.st

/-- invariant of the waiting pump: the four places a message can be in partition, in order, the output `total` of
the unbounded pump; the task ends as the unbounded pump does (`T`); a task that has ended looks at no event -/
structure PQ.Inv (total : List (List Byte)) (T : PumpEnd) (cap : Nat) (s : PQ) : Prop where
  parts : s.delivered ++ s.queue ++ s.todo ++ s.future = total
  room : s.queue.length ≤ cap
  fate : s.fate = T
  ended : s.st = .running ∨ s.evs = []

/-- work left: every event has to be processed (1 step), every message not yet split off or not yet
enqueued has to be enqueued and dequeued (2 steps), every queued message has to be dequeued (1 step) -/
def PQ.work (s : PQ) : Nat :=
  s.evs.length + 2 * s.todo.length + s.queue.length + 2 * s.future.length

theorem PQ.init_inv (evs : List ChanEv) (cap : Nat) :
    (PQ.init evs).Inv (pump .fixed evs []).1 (pump .fixed evs []).2.2 cap :=
  ⟨by simp [PQ.init, PQ.future], by simp [PQ.init], by simp [PQ.init, PQ.fate], Or.inl rfl⟩

/-- one `channel.wait()` is one step of the unbounded pump -/
theorem PQ.chanStep_spec (s : PQ) (ht : s.todo = []) :
    s.chanStep.delivered = s.delivered ∧ s.chanStep.queue = s.queue ∧
    s.chanStep.todo ++ s.chanStep.future = s.future ∧
    s.chanStep.evs.length ≤ s.evs.length ∧ (s.evs ≠ [] → s.chanStep.evs.length < s.evs.length) ∧
    (s.st = .running → s.chanStep.fate = s.fate ∧ (s.chanStep.st = .running ∨ s.chanStep.evs = [])) := by
  unfold PQ.chanStep
  split
  · rename_i he; simp [he, ht]
  all_goals
    rename_i he
    refine ⟨rfl, rfl, by simp [PQ.future, he, ht, pump], by simp [he], by simp [he], fun hr => ?_⟩
    simp [PQ.fate, he, hr, pump, PumpCfg.fixed]

theorem PQ.chanStep_idle (s : PQ) (he : s.evs = []) : s.chanStep = s := by
  simp [PQ.chanStep, he]

theorem PQ.step_inv {total : List (List Byte)} {T : PumpEnd} {cap : Nat} {s : PQ} (h : s.Inv total T cap) (a : PQAct) :
    (s.step true cap a).Inv total T cap := by
  obtain ⟨h1, h2, h3, h4⟩ := h
  cases a with
  | pump =>
    simp only [PQ.step, PQ.pumpStep]
    split
    · rename_i m ms ht
      split
      · exact ⟨by simpa [PQ.future, ht] using h1, by simp; omega, h3, h4⟩
      · exact ⟨h1, h2, h3, h4⟩
    · rename_i ht
      rcases h4 with hr | he
      · obtain ⟨e1, e2, e3, _, _, e4⟩ := s.chanStep_spec ht
        refine ⟨?_, e2 ▸ h2, (e4 hr).1 ▸ h3, (e4 hr).2⟩
        rw [e1, e2, List.append_assoc _ s.chanStep.todo, e3]; simpa [ht] using h1
      · rw [s.chanStep_idle he]; exact ⟨h1, h2, h3, Or.inr he⟩
  | consume =>
    simp only [PQ.step, PQ.consumeStep]
    split
    · rename_i m q hq
      exact ⟨by simpa [PQ.future, hq] using h1, by simp [hq] at h2 ⊢; omega, h3, h4⟩
    · exact ⟨h1, h2, h3, h4⟩

theorem PQ.run_inv {total : List (List Byte)} {T : PumpEnd} {cap : Nat} (acts : List PQAct) {s : PQ}
    (h : s.Inv total T cap) : (PQ.run true cap acts s).Inv total T cap := by
  induction acts generalizing s with
  | nil => exact h
  | cons a as ih => exact ih (PQ.step_inv h a)

theorem PQ.run_append (wait : Bool) (cap : Nat) (a b : List PQAct) (s : PQ) :
    PQ.run wait cap (a ++ b) s = PQ.run wait cap b (PQ.run wait cap a s) := by
  induction a generalizing s with
  | nil => rfl
  | cons x xs ih => exact ih _

/-- polling `a` changes the state -/
def PQ.Enabled (cap : Nat) (s : PQ) : PQAct → Prop
  | .pump => (s.todo ≠ [] ∧ s.queue.length < cap) ∨ (s.todo = [] ∧ s.evs ≠ [])
  | .consume => s.queue ≠ []

theorem PQ.chanStep_work {s : PQ} (ht : s.todo = []) : s.chanStep.work ≤ s.work ∧ (s.evs ≠ [] → s.chanStep.work < s.work) := by
  obtain ⟨_, e2, e3, e4, e5, _⟩ := s.chanStep_spec ht
  have := congrArg List.length e3
  simp only [PQ.work, ht, e2, List.length_append, List.length_nil] at this ⊢
  exact ⟨by omega, fun h => by have := e5 h; omega⟩

theorem PQ.step_work (cap : Nat) (s : PQ) (a : PQAct) :
    (s.step true cap a).work ≤ s.work ∧ (s.Enabled cap a → (s.step true cap a).work < s.work) := by
  cases a with
  | pump =>
    simp only [PQ.step, PQ.pumpStep]
    split
    · rename_i m ms ht
      split
      · simp only [PQ.work, PQ.future, ht, List.length_cons, List.length_append, List.length_nil]
        omega
      · rename_i hq
        refine ⟨Nat.le_refl _, ?_⟩
        rintro (⟨_, h⟩ | ⟨h, _⟩)
        · exact absurd h hq
        · simp [ht] at h
    · rename_i ht
      have := PQ.chanStep_work ht
      refine ⟨this.1, ?_⟩
      rintro (⟨h, _⟩ | ⟨_, h⟩)
      · exact absurd ht h
      · exact this.2 h
  | consume =>
    simp only [PQ.step, PQ.consumeStep]
    split
    · rename_i m q hq
      simp only [PQ.work, PQ.future, hq, List.length_cons]
      omega
    · rename_i hq
      exact ⟨Nat.le_refl _, fun h => absurd hq h⟩

theorem PQ.run_work (cap : Nat) (acts : List PQAct) (s : PQ) : (PQ.run true cap acts s).work ≤ s.work := by
  induction acts generalizing s with
  | nil => exact Nat.le_refl _
  | cons a as ih => exact Nat.le_trans (ih _) (PQ.step_work cap s a).1

theorem PQ.enabled_step {cap : Nat} {s : PQ} {a b : PQAct} (hne : a ≠ b) (h : s.Enabled cap a) :
    (s.step true cap b).Enabled cap a := by
  cases a <;> cases b
  · exact absurd rfl hne
  · simp only [PQ.step, PQ.consumeStep]
    split
    · rename_i m q hq
      rcases h with ⟨h1, h2⟩ | h
      · left; refine ⟨h1, ?_⟩
        simp only [hq, List.length_cons] at h2 ⊢
        omega
      · right; exact h
    · exact h
  · simp only [PQ.step, PQ.pumpStep]
    split
    · split
      · simp [PQ.Enabled]
      · exact h
    · unfold PQ.chanStep
      split <;> exact h
  · exact absurd rfl hne

theorem PQ.enabled_of_work {cap : Nat} (hcap : 1 ≤ cap) {s : PQ} (h : 0 < s.work) : ∃ a, s.Enabled cap a := by
  cases hq : s.queue with
  | cons m q => exact ⟨.consume, by simp [PQ.Enabled, hq]⟩
  | nil =>
    refine ⟨.pump, ?_⟩
    simp only [PQ.Enabled]
    cases ht : s.todo with
    | cons m ms => left; simp [hq]; omega
    | nil =>
      right
      refine ⟨rfl, ?_⟩
      intro he
      simp [PQ.work, PQ.future, hq, ht, he, pump] at h

/-- an enabled party stays enabled until it is polled, and then work is done -/
theorem PQ.run_work_lt {cap : Nat} (r : List PQAct) {s : PQ} {a : PQAct} (he : s.Enabled cap a) (hr : a ∈ r) :
    (PQ.run true cap r s).work < s.work := by
  induction r generalizing s with
  | nil => simp at hr
  | cons b bs ih =>
    by_cases hb : a = b
    · subst hb
      exact Nat.lt_of_le_of_lt (PQ.run_work cap bs _) ((PQ.step_work cap s a).2 he)
    · exact Nat.lt_of_lt_of_le (ih (PQ.enabled_step hb he) (by simpa [hb] using hr)) (PQ.step_work cap s b).1

theorem PQ.round_work {cap : Nat} (hcap : 1 ≤ cap) (r : List PQAct) (s : PQ)
    (hp : PQAct.pump ∈ r) (hc : PQAct.consume ∈ r) : (PQ.run true cap r s).work ≤ s.work - 1 := by
  by_cases h0 : 0 < s.work
  · obtain ⟨a, he⟩ := PQ.enabled_of_work hcap h0
    have := PQ.run_work_lt r he (by cases a; exact hp; exact hc)
    omega
  · have := PQ.run_work cap r s; omega

theorem PQ.rounds_work {cap : Nat} (hcap : 1 ≤ cap) (rounds : List (List PQAct)) (s : PQ)
    (hf : ∀ r ∈ rounds, PQAct.pump ∈ r ∧ PQAct.consume ∈ r) :
    (PQ.run true cap rounds.flatten s).work ≤ s.work - rounds.length := by
  induction rounds generalizing s with
  | nil => simp [PQ.run]
  | cons r rs ih =>
    rw [List.flatten_cons, PQ.run_append]
    have h1 := PQ.round_work hcap r s (hf r (by simp)).1 (hf r (by simp)).2
    calc (PQ.run true cap rs.flatten (PQ.run true cap r s)).work
        ≤ (PQ.run true cap r s).work - rs.length := ih _ fun x hx => hf x (by simp [hx])
      _ ≤ s.work - 1 - rs.length := Nat.sub_le_sub_right h1 _
      _ = s.work - (rs.length + 1) := by rw [Nat.sub_sub, Nat.add_comm]

theorem PQ.Inv.done {total : List (List Byte)} {T : PumpEnd} {cap : Nat} {s : PQ} (h : s.Inv total T cap)
    (hw : s.work = 0) : s.delivered = total ∧ s.queue = [] ∧ s.todo = [] ∧ s.evs = [] ∧ s.st = T := by
  simp [PQ.work, Nat.mul_eq_zero, List.length_eq_zero_iff] at hw  -- a sum is zero only if its terms are
  obtain ⟨⟨⟨he, ht⟩, hq⟩, hf⟩ := hw
  refine ⟨by simpa [ht, hq, hf] using h.parts, hq, ht, he, ?_⟩
  rw [← h.fate, PQ.fate, he]
  split
  · rename_i hr; rw [hr]; rfl
  · rfl

theorem PQ.work_le_of_inv {total : List (List Byte)} {T : PumpEnd} {cap : Nat} {s : PQ} (h : s.Inv total T cap) :
    s.work ≤ s.evs.length + 2 * (total.length - s.delivered.length) := by
  have := congrArg List.length h.parts
  simp only [List.length_append] at this
  simp only [PQ.work]
  omega

theorem roundRobin_eq (n : Nat) : roundRobin n = (List.replicate n [PQAct.pump, PQAct.consume]).flatten := by
  induction n with
  | zero => rfl
  | succ n ih => simp [roundRobin, List.replicate_succ, ih]

theorem roundRobin_length (n : Nat) : (roundRobin n).length = 2 * n := by
  simp [roundRobin_eq, Nat.mul_comm]

/- For `pumpq_nowait_stranded` (the variant `wait = false`): with no event left and nothing in hand no poll moves a byte
out of `buf`, whatever `wait` is. -/
theorem PQ.stuck_step (wait : Bool) (cap : Nat) (s : PQ) (a : PQAct) (he : s.evs = []) (ht : s.todo = []) :
    (s.step wait cap a).evs = [] ∧ (s.step wait cap a).todo = [] ∧ (s.step wait cap a).buf = s.buf ∧
    (s.step wait cap a).delivered ++ (s.step wait cap a).queue = s.delivered ++ s.queue := by
  cases a with
  | pump => simp [PQ.step, PQ.pumpStep, PQ.chanStep, he, ht]
  | consume =>
    simp only [PQ.step, PQ.consumeStep]
    split
    · rename_i m q hq; simp [he, ht, hq]
    · simp [he, ht]

theorem PQ.stuck_run (wait : Bool) (cap : Nat) (acts : List PQAct) (s : PQ) (he : s.evs = []) (ht : s.todo = []) :
    (PQ.run wait cap acts s).buf = s.buf ∧
    (PQ.run wait cap acts s).delivered ++ (PQ.run wait cap acts s).queue = s.delivered ++ s.queue := by
  induction acts generalizing s with
  | nil => exact ⟨rfl, rfl⟩
  | cons a as ih =>
    obtain ⟨h1, h2, h3, h4⟩ := PQ.stuck_step wait cap s a he ht
    have := ih (s.step wait cap a) h1 h2
    exact ⟨this.1.trans h3, this.2.trans h4⟩

end Framing
