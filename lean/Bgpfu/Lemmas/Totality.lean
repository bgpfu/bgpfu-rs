import Bgpfu.Model.Readers
/-! `read_to_end` seen through the five kinds of event it distinguishes, and the bounded-consumption
invariant `Good` of the reader loops (C14) with the facts about `read_to_end` / `read_text` it rests on. -/
namespace Xml

/-- what an event is to `read_to_end name` -/
inductive EvKind where
  | error | eof | opens | closes | other

def Ev.kind (name : String) : Ev → EvKind
  | .error => .error
  | .eof => .eof
  | .start t => if t.raw == name then .opens else .other
  | .end raw => if raw == name then .closes else .other
  | _ => .other

theorem Ev.kind_eof {name : String} {ev : Ev} (h : ev.kind name = .eof) : ev = .eof := by
  cases ev with
  | eof => rfl
  | start t => simp only [Ev.kind] at h; split at h <;> cases h
  | «end» r => simp only [Ev.kind] at h; split at h <;> cases h
  | _ => cases h

theorem skipToEnd_cons (name : String) (ev : Ev) (rest : List Ev) (d : Nat) :
    skipToEnd name (ev :: rest) d = match ev.kind name with
      | .error => .error .xml
      | .eof => .error .xml
      | .opens => skipToEnd name rest (d + 1)
      | .closes => (match d with | 0 => .ok rest | d + 1 => skipToEnd name rest d)
      | .other => skipToEnd name rest d := by
  cases ev <;> simp only [skipToEnd, Ev.kind] <;> split <;> rfl

theorem skipToEndLenient_cons (name : String) (ev : Ev) (rest : List Ev) (d : Nat) :
    skipToEndLenient name (ev :: rest) d = match ev.kind name with
      | .error => rest
      | .eof => .eof :: rest
      | .opens => skipToEndLenient name rest (d + 1)
      | .closes => (match d with | 0 => rest | d + 1 => skipToEndLenient name rest d)
      | .other => skipToEndLenient name rest d := by
  cases ev <;> simp only [skipToEndLenient, Ev.kind] <;> split <;> rfl

theorem skipToEnd_shorter (name : String) (evs rest : List Ev) (d : Nat)
    (h : skipToEnd name evs d = .ok rest) : rest.length < evs.length := by
  induction evs generalizing d with
  | nil => cases h
  | cons ev evs ih =>
    rw [skipToEnd_cons] at h
    split at h
    · cases h
    · cases h
    · exact Nat.lt_succ_of_lt (ih _ h)
    · cases d with
      | zero => cases h; exact Nat.lt_succ_self _
      | succ d => exact Nat.lt_succ_of_lt (ih _ h)
    · exact Nat.lt_succ_of_lt (ih _ h)

theorem skipToEnd_ne_fuel (name : String) (evs : List Ev) (d : Nat) :
    skipToEnd name evs d ≠ .error .fuel := by
  induction evs generalizing d with
  | nil => exact nofun
  | cons ev evs ih =>
    rw [skipToEnd_cons]
    split
    · exact nofun
    · exact nofun
    · exact ih _
    · cases d with
      | zero => exact nofun
      | succ d => exact ih _
    · exact ih _

theorem readText_shorter (t : Tag) (evs rest : List Ev) (s : String)
    (h : readText t evs = .ok (s, rest)) : rest.length < evs.length := by
  unfold readText at h
  split at h
  · cases h
  · rename_i r hr
    split at h
    · cases h; exact skipToEnd_shorter _ _ _ _ hr
    · cases h

theorem readText_ne_fuel (t : Tag) (evs : List Ev) : readText t evs ≠ .error .fuel := by
  unfold readText
  split
  · rename_i e he; intro h; cases h; exact skipToEnd_ne_fuel _ _ _ he
  · split <;> exact nofun

/-- `skipToEnd_ne_fuel` and `readText_ne_fuel` in the form `Good.error` takes -/
theorem skipToEnd_err (name : String) (evs : List Ev) (d : Nat) (e : Err)
    (h : skipToEnd name evs d = .error e) : e ≠ .fuel :=
  fun he => skipToEnd_ne_fuel name evs d (he ▸ h)

theorem readText_err (t : Tag) (evs : List Ev) (e : Err) (h : readText t evs = .error e) : e ≠ .fuel :=
  fun he => readText_ne_fuel t evs (he ▸ h)

/-- a rewrite `g` of the events a reader leaves -/
def mapEvs {α} (g : List Ev → List Ev) : Except Err (α × List Ev) → Except Err (α × List Ev)
  | .ok (v, r) => .ok (v, g r)
  | .error e => .error e

/-- the result of a loop on `evs` with `fuel`: consumed something; never out of fuel if fuel suffices -/
def Good {α} (evs : List Ev) (fuel : Nat) (r : Except Err (α × List Ev)) : Prop :=
  (∀ v rest, r = .ok (v, rest) → rest.length < evs.length) ∧ (evs.length < fuel → r ≠ .error .fuel)

/-! ### the shapes an arm of a reader loop can have
Every arm of every loop (`fun_induction` lists them) is one of these; a loop is `Good` because each of
its arms is. A `Good` result is used through `shorter`, `enough` and (for an error handed on at another value
type) `ne_fuel`. -/
namespace Good
universe u v
variable {α : Type u} {β : Type v} {evs evs' rest : List Ev} {fuel : Nat}

theorem error {e : Err} (h : e ≠ .fuel) : Good evs fuel (.error e : Except Err (α × List Ev)) :=
  And.intro (fun _ _ h' => nomatch h') (fun _ h' => h (Except.error.inj h'))

theorem zero : Good evs 0 (.error .fuel : Except Err (α × List Ev)) :=
  And.intro (fun _ _ h' => nomatch h') (fun h' => nomatch h')

theorem ok {v : α} (h : rest.length < evs.length) : Good evs fuel (.ok (v, rest)) :=
  And.intro (fun _ _ h' => by cases h'; exact h) (fun _ h' => nomatch h')

/-- the loop goes on, an iteration later, on a shorter list -/
theorem step {r : Except Err (α × List Ev)} (h : Good evs fuel r) (hl : evs.length < evs'.length) :
    Good evs' (fuel + 1) r :=
  And.intro (fun v rest hr => Nat.lt_trans (h.1 v rest hr) hl) (fun hf => h.2 (Nat.lt_of_lt_of_le hl (Nat.le_of_lt_succ hf)))

theorem enough {r : Except Err (α × List Ev)} (h : Good evs fuel r) (hf : evs.length < fuel) : r ≠ .error .fuel :=
  h.2 hf

theorem ne_fuel {γ : Type u} {s : Except Err (β × List Ev)} {e : Err} (hs : Good evs fuel s) (he : s = .error e)
    (hf : evs.length < fuel) : (.error e : Except Err γ) ≠ .error .fuel :=
  fun h' => hs.2 hf (he.trans (congrArg Except.error (Except.error.inj h')))

/-- a reader that passes on the failure of the loop it wraps -/
theorem of_error {s : Except Err (β × List Ev)} {e : Err} (hs : Good evs fuel s) (he : s = .error e) :
    Good evs fuel (.error e : Except Err (α × List Ev)) :=
  And.intro (fun _ _ h' => nomatch h') (hs.ne_fuel he)

/-- a sub-reader, called on the events after `ev` with the fuel that is left, failed; all that is asked of it is
that it does not run out of fuel that suffices (`Reader.Regular.enough` of `Lemmas/ElemLoop.lean`) -/
theorem failed' {s : Except Err (β × List Ev)} {e : Err} (hs : evs.length < fuel → s ≠ .error .fuel)
    (he : s = .error e) {ev : Ev} : Good (ev :: evs) (fuel + 1) (.error e : Except Err (α × List Ev)) :=
  And.intro (fun _ _ h' => nomatch h') fun hf h' =>
    hs (Nat.lt_of_succ_lt_succ hf) (he.trans (congrArg Except.error (Except.error.inj h')))

theorem failed {s : Except Err (β × List Ev)} {e : Err} (hs : Good evs fuel s) (he : s = .error e) {ev : Ev} :
    Good (ev :: evs) (fuel + 1) (.error e : Except Err (α × List Ev)) :=
  failed' hs.enough he

/-- a sub-reader, called on the events after `ev` with the fuel that is left, returned, and the loop goes on where it stopped -/
theorem after {s : Except Err (β × List Ev)} {v : β} {r : List Ev} {x : Except Err (α × List Ev)}
    (hs : Good evs fuel s) (he : s = .ok (v, r)) (hx : Good r fuel x) {ev : Ev} : Good (ev :: evs) (fuel + 1) x :=
  hx.step (Nat.lt_trans (hs.1 v r he) (Nat.lt_succ_self _))

theorem shorter {s : Except Err (β × List Ev)} {b : β} (hs : Good evs fuel s) (he : s = .ok (b, rest)) :
    rest.length < evs.length := hs.1 b rest he

end Good

end Xml
