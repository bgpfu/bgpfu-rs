import Bgpfu.Model.Framing
import Bgpfu.Model.SendLoop
/-! `find` is the leftmost occurrence (`OccAt`). The receive loop of the current code equals a loop that searches
the whole buffer on every iteration (`specRecv`), and that loop is characterised on `datas cs ++ tail`: this is
what C06, C07 and C18 read their statements off. `split` by its two equations; the SSH pump on a run of data
packets; the `write_all` loop (C10). -/
namespace Framing

def OccAt (pat l : List Byte) (j : Nat) : Prop := pat.isPrefixOf (l.drop j) = true

-- by unfolding, as `OccAt pat l 0` is `pat.isPrefixOf l = true`: the two proofs about `find` below use both silently
theorem occAt_succ (pat : List Byte) (x : Byte) (l : List Byte) (j : Nat) :
    OccAt pat (x :: l) (j + 1) ↔ OccAt pat l j := Iff.rfl

theorem marker_ne_nil : marker ≠ [] := by decide
theorem marker_length : marker.length = 6 := rfl

theorem find_none_iff (pat l : List Byte) (hp : pat ≠ []) :
    find pat l = none ↔ ∀ j, ¬ OccAt pat l j := by
  induction l with
  | nil =>
    cases pat with
    | nil => exact absurd rfl hp
    | cons p ps => simp [find, OccAt]
  | cons x xs ih =>
    rw [find]
    split
    · rename_i h
      exact ⟨fun e => (nomatch e), fun hall => absurd h (hall 0)⟩
    · rename_i h
      rw [Option.map_eq_none_iff, ih]
      refine ⟨fun hx j => ?_, fun hx j => hx (j + 1)⟩
      cases j with
      | zero => exact h
      | succ j => exact hx j

theorem find_some_iff (pat l : List Byte) (i : Nat) (hp : pat ≠ []) :
    find pat l = some i ↔ (OccAt pat l i ∧ ∀ j < i, ¬ OccAt pat l j) := by
  induction l generalizing i with
  | nil =>
    cases pat with
    | nil => exact absurd rfl hp
    | cons p ps => simp [find, OccAt]
  | cons x xs ih =>
    rw [find]
    split
    · rename_i h
      refine ⟨fun hi => by cases hi; exact ⟨h, by simp⟩, fun ⟨_, h3⟩ => ?_⟩
      cases i with
      | zero => rfl
      | succ i => exact absurd h (h3 0 (by omega))
    · rename_i h
      cases i with
      | zero => simpa using fun (h' : OccAt pat (x :: xs) 0) => absurd h' h
      | succ i =>
        simp only [Option.map_eq_some_iff, Nat.add_right_cancel_iff, exists_eq_right, ih]
        refine ⟨fun ⟨h1, h3⟩ => ⟨h1, fun j hj => ?_⟩, fun ⟨h1, h3⟩ => ⟨h1, fun j hj => h3 (j + 1) (by omega)⟩⟩
        cases j with
        | zero => exact h
        | succ j => exact h3 j (by omega)

theorem occAt_append_left (pat u v : List Byte) (j : Nat) :
    OccAt pat (u ++ v) (u.length + j) ↔ OccAt pat v j := by
  simp [OccAt]

theorem occAt_get (pat s : List Byte) (j : Nat) (h : OccAt pat s j) (k : Nat) (hk : k < pat.length) :
    s[j + k]? = pat[k]? := by
  obtain ⟨t, ht⟩ := List.isPrefixOf_iff_prefix.1 h
  have : (s.drop j)[k]? = pat[k]? := by rw [← ht, List.getElem?_append_left hk]
  simpa [List.getElem?_drop] using this

theorem occAt_bound (pat l : List Byte) (j : Nat) (hp : pat ≠ []) (h : OccAt pat l j) :
    j + pat.length ≤ l.length := by
  have := (List.isPrefixOf_iff_prefix.1 h).length_le
  have := List.length_pos_iff.mpr hp
  rw [List.length_drop] at *
  omega

theorem occAt_append (pat s t : List Byte) (j : Nat) (h : OccAt pat s j) : OccAt pat (s ++ t) j := by
  unfold OccAt at *
  rw [List.isPrefixOf_iff_prefix] at *
  rw [List.drop_append]
  exact h.trans (List.prefix_append _ _)

theorem occAt_of_append (pat s t : List Byte) (j : Nat) (hj : j + pat.length ≤ s.length)
    (h : OccAt pat (s ++ t) j) : OccAt pat s j := by
  unfold OccAt at *
  rw [List.isPrefixOf_iff_prefix] at *
  rw [List.drop_append_of_le_length (by omega)] at h
  exact List.prefix_of_prefix_length_le h (List.prefix_append _ _) (by rw [List.length_drop]; omega)

theorem find_append_some (pat s t : List Byte) (i : Nat) (hp : pat ≠ [])
    (h : find pat s = some i) : find pat (s ++ t) = some i := by
  rw [find_some_iff _ _ _ hp] at h ⊢
  obtain ⟨h1, h2⟩ := h
  refine ⟨occAt_append _ _ _ _ h1, ?_⟩
  intro j hj hocc
  have := occAt_bound pat s i hp h1
  exact h2 j hj (occAt_of_append pat s t j (by omega) hocc)

theorem find_shift (pat l : List Byte) (s : Nat) (hp : pat ≠ [])
    (hno : ∀ j < s, ¬ OccAt pat l j) :
    find pat l = (find pat (l.drop s)).map (· + s) := by
  induction s generalizing l with
  | zero => simp
  | succ s ih =>
    cases l with
    | nil => cases pat with
      | nil => exact absurd rfl hp
      | cons p ps => rfl
    | cons x xs =>
      have h0 : ¬ pat.isPrefixOf (x :: xs) = true := hno 0 (Nat.succ_pos s)
      rw [find, if_neg h0, List.drop_succ_cons, ih xs fun j hj => hno (j + 1) (Nat.succ_lt_succ hj)]
      cases find pat (xs.drop s) <;> simp [Nat.add_assoc]

theorem find_append_none (pat s t : List Byte) (hp : pat ≠ []) (h : find pat (s ++ t) = none) : find pat s = none := by
  cases hf : find pat s with
  | none => rfl
  | some i => rw [find_append_some pat s t i hp hf] at h; cases h

theorem no_occ_append (pat a b : List Byte)
    (hno : ∀ j, ¬ OccAt pat a j) :
    ∀ j < a.length - (pat.length - 1), ¬ OccAt pat (a ++ b) j := by
  intro j hj hocc
  apply hno j
  exact occAt_of_append pat a b j (by omega) hocc

/-! ### `recv` with the whole buffer searched on every iteration (reference loop) -/

def specRecv : (reads : List Read) → (buf : List Byte) → Out
  | [], buf =>
    match find marker buf with
    | some i => .msg (buf.take (i + marker.length)) (buf.drop (i + marker.length)) []
    | none => .pending buf
  | r :: rs, buf =>
    match find marker buf with
    | some i => .msg (buf.take (i + marker.length)) (buf.drop (i + marker.length)) (r :: rs)
    | none =>
      match r with
      | .data bs => specRecv rs (buf ++ bs)
      | .ioErr => .err buf
      | .eof => .err buf

/- The loop's invariant is `hno`: no occurrence starts before `searched`. It survives a read because an occurrence
in `buf ++ bs` that starts at least `marker.length - 1` bytes before the end of `buf` lies inside `buf`
(`no_occ_append`), where there is none. -/
theorem recvLoop_eq_spec_back (back : Nat) (hb : marker.length - 1 ≤ back) (reads : List Read) (searched : Nat)
    (buf : List Byte) (hno : ∀ j < searched, ¬ OccAt marker buf j) :
    recvLoop { back := back, eofCheck := true } reads searched buf = specRecv reads buf := by
  induction reads generalizing searched buf with
  | nil =>
    have hs := find_shift marker buf searched marker_ne_nil hno
    cases hf : find marker (buf.drop searched) <;> simp [recvLoop, specRecv, hf, hs, Nat.add_comm]
  | cons r rs ih =>
    have hs := find_shift marker buf searched marker_ne_nil hno
    cases hf : find marker (buf.drop searched) with
    | some i => simp [recvLoop, specRecv, hf, hs, Nat.add_comm]
    | none =>
      rw [hf] at hs
      cases r with
      | data bs =>
        simp only [recvLoop, specRecv, hf, hs, Option.map_none]
        exact ih _ _ fun j hj =>
          no_occ_append marker buf bs ((find_none_iff _ _ marker_ne_nil).mp hs) j
            (Nat.lt_of_lt_of_le hj (Nat.sub_le_sub_left hb _))
      | eof => simp [recvLoop, specRecv, hf, hs]
      | ioErr => simp [recvLoop, specRecv, hf, hs]

theorem recv_eq_spec (buf : List Byte) (reads : List Read) :
    recv .fixed buf reads = specRecv reads buf :=
  recvLoop_eq_spec_back (marker.length - 1) (Nat.le_refl _) reads 0 buf (by intro j hj; omega)

theorem find_some_bound (s : List Byte) (i : Nat) (h : find marker s = some i) :
    i + marker.length ≤ s.length ∧ (s.drop (i + marker.length)).length < s.length := by
  have := occAt_bound marker s i marker_ne_nil ((find_some_iff _ _ _ marker_ne_nil).mp h).1
  have := marker_length
  exact ⟨‹_›, by rw [List.length_drop]; omega⟩

theorem splitAll_fuel (n m : Nat) (s : List Byte) (hn : s.length ≤ n) (hm : s.length ≤ m) :
    splitAll n s = splitAll m s := by
  induction n generalizing m s with
  | zero =>
    obtain rfl : s = [] := List.eq_nil_of_length_eq_zero (by omega)
    cases m <;> simp [splitAll, find, marker]
  | succ n ih =>
    cases m with
    | zero =>
      obtain rfl : s = [] := List.eq_nil_of_length_eq_zero (by omega)
      simp [splitAll, find, marker]
    | succ m =>
      rw [splitAll, splitAll]
      cases hf : find marker s with
      | none => rfl
      | some i =>
        have := (find_some_bound s i hf).2
        simp only []
        rw [ih m _ (by omega) (by omega)]

theorem split_unfold (s : List Byte) :
    split s = match find marker s with
      | some i => (s.take (i + marker.length) :: (split (s.drop (i + marker.length))).1,
          (split (s.drop (i + marker.length))).2)
      | none => ([], s) := by
  unfold split
  cases hl : s.length with
  | zero =>
    have : s = [] := List.eq_nil_of_length_eq_zero hl
    subst this
    simp [splitAll, find, marker]
  | succ n =>
    rw [splitAll]
    cases hf : find marker s with
    | none => rfl
    | some i =>
      have := (find_some_bound s i hf).2
      simp only []
      rw [splitAll_fuel n _ (s.drop (i + marker.length)) (by omega) (Nat.le_refl _)]

theorem split_none (s : List Byte) (h : find marker s = none) : split s = ([], s) := by
  rw [split_unfold, h]

theorem split_some (s : List Byte) (i : Nat) (h : find marker s = some i) :
    split s = (s.take (i + marker.length) :: (split (s.drop (i + marker.length))).1,
      (split (s.drop (i + marker.length))).2) := by
  rw [split_unfold, h]

theorem split_residue (s : List Byte) : find marker (split s).2 = none := by
  generalize hn : s.length = n
  induction n using Nat.strongRecOn generalizing s with
  | _ n ih =>
    cases hf : find marker s with
    | none => rw [split_none s hf]; exact hf
    | some i =>
      rw [split_some s i hf]
      exact ih _ (hn ▸ (find_some_bound s i hf).2) _ rfl

theorem split_append (s t : List Byte) :
    split (s ++ t) = ((split s).1 ++ (split ((split s).2 ++ t)).1, (split ((split s).2 ++ t)).2) := by
  generalize hn : s.length = n
  induction n using Nat.strongRecOn generalizing s with
  | _ n ih =>
    cases hf : find marker s with
    | none => rw [split_none s hf]; simp
    | some i =>
      obtain ⟨hb, hlt⟩ := find_some_bound s i hf
      rw [split_some s i hf, split_some (s ++ t) i (find_append_some marker s t i marker_ne_nil hf),
        List.take_append_of_le_length hb, List.drop_append_of_le_length hb, ih _ (hn ▸ hlt) _ rfl]
      simp

theorem split_one (m : List Byte) (h : find marker (m ++ marker) = some m.length) :
    split (m ++ marker) = ([m ++ marker], []) := by
  rw [split_some _ _ h, List.take_of_length_le (by simp), List.drop_of_length_le (by simp), split_none [] (by decide)]

def datas (cs : List (List Byte)) : List Read := cs.map .data

theorem datas_append (a b : List (List Byte)) : datas (a ++ b) = datas a ++ datas b := List.map_append

def Read.isData : Read → Bool
  | .data _ => true
  | _ => false

theorem specRecv_some {buf : List Byte} {i : Nat} (h : find marker buf = some i) (reads : List Read) :
    specRecv reads buf = .msg (buf.take (i + marker.length)) (buf.drop (i + marker.length)) reads := by
  cases reads <;> simp [specRecv, h]

theorem specRecv_nil {buf : List Byte} (h : find marker buf = none) : specRecv [] buf = .pending buf := by
  simp [specRecv, h]

theorem specRecv_data {buf : List Byte} (h : find marker buf = none) (bs : List Byte) (rs : List Read) :
    specRecv (.data bs :: rs) buf = specRecv rs (buf ++ bs) := by
  simp [specRecv, h]

theorem specRecv_end {buf : List Byte} (h : find marker buf = none) {r : Read} (hr : r.isData = false) (rs : List Read) :
    specRecv (r :: rs) buf = .err buf := by
  cases r <;> simp_all [specRecv, Read.isData]

theorem specRecv_datas_none (cs : List (List Byte)) (tail : List Read) (buf : List Byte)
    (h : find marker (buf ++ cs.flatten) = none) :
    specRecv (datas cs ++ tail) buf = specRecv tail (buf ++ cs.flatten) := by
  induction cs generalizing buf with
  | nil => simp [datas]
  | cons c cs ih =>
    rw [List.flatten_cons, ← List.append_assoc] at h
    rw [datas, List.map_cons, List.cons_append,
      specRecv_data (find_append_none _ _ _ marker_ne_nil (find_append_none _ _ _ marker_ne_nil h)), ← datas, ih _ h]
    simp

theorem specRecv_datas_some (cs : List (List Byte)) (tail : List Read) (buf : List Byte) (i : Nat)
    (h : find marker (buf ++ cs.flatten) = some i) :
    ∃ cs' buf', specRecv (datas cs ++ tail) buf
        = .msg ((buf ++ cs.flatten).take (i + marker.length)) buf' (datas cs' ++ tail) ∧
      buf' ++ cs'.flatten = (buf ++ cs.flatten).drop (i + marker.length) := by
  induction cs generalizing buf with
  | nil =>
    rw [List.flatten_nil, List.append_nil] at h ⊢
    exact ⟨[], _, specRecv_some h _, by simp⟩
  | cons c cs ih =>
    cases hf : find marker buf with
    | some j =>
      have hb := (find_some_bound buf j hf).1
      obtain rfl : j = i := by rw [find_append_some marker buf _ j marker_ne_nil hf] at h; exact Option.some.inj h
      refine ⟨c :: cs, buf.drop (j + marker.length), ?_, ?_⟩
      · rw [specRecv_some hf, List.take_append_of_le_length hb]
      · rw [List.drop_append_of_le_length hb]
    | none =>
      rw [List.flatten_cons, ← List.append_assoc] at h ⊢
      obtain ⟨cs', buf', h1, h2⟩ := ih _ h
      exact ⟨cs', buf', by rw [datas, List.map_cons, List.cons_append, specRecv_data hf, ← datas, h1], h2⟩

theorem specRecv_pending (reads : List Read) (buf b : List Byte) (h : specRecv reads buf = .pending b) :
    ∃ cs, reads = datas cs ∧ b = buf ++ cs.flatten ∧ find marker b = none := by
  fun_induction specRecv reads buf with
  | case2 buf hf => cases h; exact ⟨[], rfl, by simp, hf⟩
  | case4 rs buf hf bs ih => obtain ⟨cs, rfl, rfl, h3⟩ := ih h; exact ⟨bs :: cs, rfl, by simp, h3⟩
  | _ => cases h

theorem specRecv_ne_spin (reads : List Read) (buf b : List Byte) : specRecv reads buf ≠ .spin b := by
  fun_induction specRecv reads buf <;> simp [*]

def ChanEv.ends : ChanEv → Bool
  | .eof => true
  | .closed => true
  | _ => false

theorem pump_status (evs : List ChanEv) (buf : List Byte) :
    (pump .fixed evs buf).2.2 = if evs.any ChanEv.ends then .exited else .running := by
  induction evs generalizing buf with
  | nil => rfl
  | cons x xs ih =>
    cases x with
    | closed => simp [pump, ChanEv.ends, show PumpCfg.fixed.exitOnClosed = true from rfl]
    | _ => simp [pump, ChanEv.ends, ih]

/-- a run of data packets is one packet: its messages are split off, the rest of the events see the residue -/
theorem pump_datas (cs : List (List Byte)) (evs : List ChanEv) (buf : List Byte) (hbuf : find marker buf = none) :
    pump .fixed (cs.map .data ++ evs) buf
      = ((split (buf ++ cs.flatten)).1 ++ (pump .fixed evs (split (buf ++ cs.flatten)).2).1,
         (pump .fixed evs (split (buf ++ cs.flatten)).2).2) := by
  induction cs generalizing buf with
  | nil => simp [split_none _ hbuf]
  | cons c cs ih =>
    have h1 : pumpData .fixed buf c = split (buf ++ c) := by simp [pumpData, PumpCfg.fixed]
    simp only [List.map_cons, List.cons_append, pump, h1, List.flatten_cons]
    rw [ih _ (split_residue (buf ++ c)), ← List.append_assoc buf, split_append (buf ++ c) cs.flatten,
      List.append_assoc]

theorem pump_data_then_end (cs : List (List Byte)) (e : ChanEv) (post : List ChanEv) (buf : List Byte)
    (hbuf : find marker buf = none) (he : e.ends = true) :
    (pump .fixed (cs.map .data ++ e :: post) buf).1 = (split (buf ++ cs.flatten)).1 ∧
    (pump .fixed (cs.map .data ++ e :: post) buf).2.2 = .exited := by
  rw [pump_datas cs _ buf hbuf]
  cases e <;> simp [ChanEv.ends] at he <;> simp [pump, PumpCfg.fixed]

theorem writeAll_spec (data : List Byte) (caps : List Nat) :
    ∃ rest, (writeAll data caps).1.flatten ++ rest = data ∧ ((writeAll data caps).2 = true ↔ rest = []) := by
  fun_induction writeAll data caps with
  | case1 => exact ⟨[], by simp⟩
  | case2 d ds => exact ⟨d :: ds, by simp⟩
  | case3 d ds caps => exact ⟨d :: ds, by simp⟩
  | case4 d ds c caps hc chunks ok h ih =>
    obtain ⟨rest, h1, h2⟩ := ih
    rw [h] at h1 h2
    exact ⟨rest, by simp only [List.flatten_cons, List.append_assoc, h1, List.take_append_drop], h2⟩

theorem writeAll_complete (data : List Byte) (caps : List Nat) (hpos : ∀ c ∈ caps, 1 ≤ c)
    (hlen : data.length ≤ caps.length) :
    (writeAll data caps).1.flatten = data ∧ (writeAll data caps).2 = true := by
  fun_induction writeAll data caps with
  | case1 => simp
  | case2 d ds => simp at hlen
  | case3 d ds caps => simp at hpos
  | case4 d ds c caps hc chunks ok h ih =>
    have := ih (fun x hx => hpos x (by simp [hx])) (by simp only [List.length_drop, List.length_cons] at hlen ⊢; omega)
    simp only [h] at this
    simp [this.1, this.2]

theorem writeAll_chunks (data : List Byte) (caps : List Nat) :
    ∀ ch ∈ (writeAll data caps).1, ch ≠ [] := by
  fun_induction writeAll data caps with
  | case4 d ds c caps hc chunks ok h ih =>
    rw [h] at ih
    simpa [hc] using ih
  | _ => simp

theorem writeMany_flatten (sends : List (List Byte × List Nat))
    (h : ∀ p ∈ sends, (∀ c ∈ p.2, 1 ≤ c) ∧ p.1.length ≤ p.2.length) :
    (writeMany writeAll sends).flatten = (sends.map (·.1)).flatten := by
  induction sends with
  | nil => rfl
  | cons p ps ih =>
    obtain ⟨data, caps⟩ := p
    have hp := h (data, caps) (by simp)
    simp only [writeMany, List.flatten_append, List.map_cons, List.flatten_cons]
    rw [(writeAll_complete data caps hp.1 hp.2).1, ih (fun q hq => h q (by simp [hq]))]

end Framing
