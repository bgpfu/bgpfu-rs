import Bgpfu.Model.Irr
/-! The database and the two observers of an outcome that the examples and `_cex` theorems of C11, C15 and C17 share. -/
namespace Irr
open Rpsl

/-- `AS-A = {AS1, AS-B}`, `AS-B = {AS2, AS-A}` (cyclic), AS1 → 10.0.0.0/8 + 2001:db8::/32, AS2 → 192.0.2.0/24 -/
def exDb : Db :=
  { emptyIsD := true
    asSets := [("AS-A", [.leaf 1, .set "AS-B"]), ("AS-B", [.leaf 2, .set "AS-A"])]
    routeSets := [("RS-X", [.leaf (.pfx ⟨.v4, 10, 8⟩ .lessIncl)])]
    routes := [(1, [⟨.v4, 10, 8⟩, ⟨.v6, 0x20010db8, 32⟩]), (2, [⟨.v4, 0xc00002, 24⟩])]
    filterSets := [("FLTR-F", [{ mpFilter := some (.prefixSet (.named (.asSet "AS-A")) .none) }])] }

def exAsA : Expr := .prefixSet (.named (.asSet "AS-A")) .none

def okAt (o : Outcome PSet) (q : Pfx) : Bool :=
  match o with
  | .ok s => s q
  | _ => false

def isErr (o : Outcome PSet) (k : ErrKind) : Bool :=
  match o with
  | .err e => e == k
  | _ => false

end Irr
