import Bgpfu.Spec.ReplyGrammar
import Bgpfu.Lemmas.Totality
/-! On the documents of the reply grammar the event-level readers compute the child-level semantics
(`readMessage_doc`): per loop one `_refines` lemma, by induction on the children. At each child the loop and
the semantics are the same `if` over the same guard once `liftR` is moved inside (`apply_ite`), and the
branch that goes on is the induction hypothesis. -/
namespace Xml

def Outcome.isSuccess : Outcome → Bool
  | .ok => true
  | .data _ => true
  | _ => false

theorem inert_cons (name : String) (ev : Ev) (rest : List Ev) :
    Inert name (ev :: rest) ↔ ev.kind name = .other ∧ Inert name rest := by
  cases ev <;> simp [Inert, Ev.kind]

theorem inert_comment (name : String) (a b : List Ev) :
    Inert name (a ++ .comment :: b) ↔ Inert name (a ++ b) := by
  induction a with
  | nil => simp [Inert]
  | cons x xs ih => simp only [List.cons_append, inert_cons, ih]

theorem skipToEnd_inert (name : String) (inner tail : List Ev) (d : Nat) (h : Inert name inner) :
    skipToEnd name (inner ++ tail) d = skipToEnd name tail d := by
  induction inner with
  | nil => rfl
  | cons ev rest ih =>
    rw [inert_cons] at h
    rw [List.cons_append, skipToEnd_cons, h.1]
    exact ih h.2

theorem readText_leaf (name span : String) (inner rest : List Ev) (h : Inert name inner) :
    readText (baseTag name (some span)) (inner ++ .end name :: rest) = .ok (span, rest) := by
  simp [readText, baseTag, skipToEnd_inert _ _ _ _ h, skipToEnd]

theorem leaf_length (name span : String) (inner : List Ev) : (leaf name span inner).length = inner.length + 2 := by
  simp [leaf]

theorem leaf_append (name span : String) (inner tail : List Ev) :
    leaf name span inner ++ tail = .start (baseTag name (some span)) :: (inner ++ .end name :: tail) := by
  simp [leaf]

theorem baseTag_is (name : String) (sp : Option String) (n : String) :
    (baseTag name sp).is BASE n = (name == n) := by
  simp [Tag.is, baseTag]

theorem errorLoop_step_type (fuel : Nat) (raw : String) (acc : ErrAcc) (s : String) (inner tail : List Ev)
    (v : ErrType) (hacc : acc.ty = none) (hp : parseErrType (trim s) = some v) (hi : Inert "error-type" inner) :
    errorLoop (fuel + 1) raw acc (leaf "error-type" s inner ++ tail)
      = errorLoop fuel raw { acc with ty := some v } tail := by
  rw [leaf_append, errorLoop]
  simp only [baseTag_is, hacc, readText_leaf _ _ _ _ hi, hp]
  simp

theorem errorLoop_step_tag (fuel : Nat) (raw : String) (acc : ErrAcc) (s : String) (inner tail : List Ev)
    (v : String) (hacc : acc.tag = none) (hp : parseErrTag (trim s) = some v) (hi : Inert "error-tag" inner) :
    errorLoop (fuel + 1) raw acc (leaf "error-tag" s inner ++ tail)
      = errorLoop fuel raw { acc with tag := some v } tail := by
  rw [leaf_append, errorLoop]
  simp only [baseTag_is, hacc, readText_leaf _ _ _ _ hi, hp]
  simp

theorem errorLoop_step_sev (fuel : Nat) (raw : String) (acc : ErrAcc) (s : String) (inner tail : List Ev)
    (v : Severity) (hacc : acc.severity = none) (hp : parseSeverity (trim s) = some v) (hi : Inert "error-severity" inner) :
    errorLoop (fuel + 1) raw acc (leaf "error-severity" s inner ++ tail)
      = errorLoop fuel raw { acc with severity := some v } tail := by
  rw [leaf_append, errorLoop]
  simp only [baseTag_is, hacc, readText_leaf _ _ _ _ hi, hp]
  simp

theorem errorLoop_step_app (fuel : Nat) (raw : String) (acc : ErrAcc) (s : String) (inner tail : List Ev)
    (hacc : acc.appTag = none) (hi : Inert "error-app-tag" inner) :
    errorLoop (fuel + 1) raw acc (leaf "error-app-tag" s inner ++ tail)
      = errorLoop fuel raw { acc with appTag := some (trim s) } tail := by
  rw [leaf_append, errorLoop]
  simp only [baseTag_is, hacc, readText_leaf _ _ _ _ hi]
  simp

theorem errorLoop_step_msg (fuel : Nat) (raw : String) (acc : ErrAcc) (s : String) (inner tail : List Ev)
    (hacc : acc.message = none) (hi : Inert "error-message" inner) :
    errorLoop (fuel + 1) raw acc (leaf "error-message" s inner ++ tail)
      = errorLoop fuel raw { acc with message := some (trim s) } tail := by
  rw [leaf_append, errorLoop]
  simp only [baseTag_is, hacc, readText_leaf _ _ _ _ hi]
  simp

theorem errorLoop_end (fuel : Nat) (raw : String) (acc : ErrAcc) (tail : List Ev) :
    errorLoop (fuel + 1) raw acc (.end raw :: tail)
      = (match acc.finish with | .ok e => .ok (e, tail) | .error e => .error e) := by
  rw [errorLoop]; simp only [beq_self_eq_true, if_true]
  cases acc.finish <;> rfl

def rpcErrorTag (raw : String) : Tag :=
  { ns := .bound BASE, lname := "rpc-error", raw := raw, attrs := [], span := none }

theorem rpcErrorTag_is (raw n : String) : (rpcErrorTag raw).is BASE n = ("rpc-error" == n) := by
  simp [Tag.is, rpcErrorTag]

/-- start tag, three leaves of two events or more, end tag -/
theorem ErrSpec.render_length (e : ErrSpec) : 8 ≤ e.render.length := by
  simp [ErrSpec.render, ErrSpec.fields, leaf]; omega

/-- the loop needs fuel 6: at most five fields and the end tag, one iteration each -/
theorem readRpcError_render (e : ErrSpec) (h : e.WF) (fuel : Nat) (hf : e.render.length ≤ fuel) (rest : List Ev) :
    readRpcError fuel (rpcErrorTag e.raw) (e.fields ++ .end e.raw :: rest) = .ok (e.value, rest) := by
  obtain ⟨f, rfl⟩ := Nat.exists_eq_add_of_le' (Nat.le_trans (Nat.le_trans (by decide : 6 ≤ 8) e.render_length) hf)
  unfold readRpcError ErrSpec.fields
  simp only [rpcErrorTag, List.append_assoc]
  rw [errorLoop_step_type _ _ _ _ _ _ e.ty rfl h.ty h.tyI]
  rw [errorLoop_step_tag _ _ _ _ _ _ e.tag rfl h.tag h.tagI]
  rw [errorLoop_step_sev _ _ _ _ _ _ e.sev rfl h.sev h.sevI]
  cases ha : e.appTag with
  | none =>
    cases hm : e.message with
    | none =>
      simp only [optLeaf, List.nil_append]
      rw [errorLoop_end]
      simp [ErrAcc.finish, ErrSpec.value, ha, hm]
    | some p =>
      obtain ⟨ms, mi⟩ := p
      simp only [optLeaf, List.nil_append]
      rw [errorLoop_step_msg _ _ _ _ _ _ rfl (h.msgI _ hm)]
      rw [errorLoop_end]
      simp [ErrAcc.finish, ErrSpec.value, ha, hm]
  | some q =>
    obtain ⟨as, ai⟩ := q
    cases hm : e.message with
    | none =>
      simp only [optLeaf, List.nil_append]
      rw [errorLoop_step_app _ _ _ _ _ _ rfl (h.appI _ ha)]
      rw [errorLoop_end]
      simp [ErrAcc.finish, ErrSpec.value, ha, hm]
    | some p =>
      obtain ⟨ms, mi⟩ := p
      simp only [optLeaf]
      rw [errorLoop_step_app _ _ _ _ _ _ rfl (h.appI _ ha)]
      rw [errorLoop_step_msg _ _ _ _ _ _ rfl (h.msgI _ hm)]
      rw [errorLoop_end]
      simp [ErrAcc.finish, ErrSpec.value, ha, hm]

theorem ErrSpec.render_eq (e : ErrSpec) (tail : List Ev) :
    e.render ++ tail = .start (rpcErrorTag e.raw) :: (e.fields ++ .end e.raw :: tail) := by
  simp [ErrSpec.render, rpcErrorTag]

def liftR {α} (r : Except Err α) (rest : List Ev) : Except Err (α × List Ev) :=
  match r with
  | .ok v => .ok (v, rest)
  | .error e => .error e

@[simp] theorem liftR_ok {α} (v : α) (rest : List Ev) : liftR (.ok v) rest = .ok (v, rest) := rfl
@[simp] theorem liftR_error {α} (e : Err) (rest : List Ev) : liftR (.error e : Except Err α) rest = .error e := rfl

theorem Top.render_pos (c : Top) : 0 < c.render.length := by
  cases c <;> simp [Top.render, leaf, ErrSpec.render]

theorem Inner.render_pos (c : Inner) : 0 < c.render.length := by
  cases c <;> simp [Inner.render, leaf, ErrSpec.render]

/-- The induction all loop refinements share. `L fuel st evs` is a reader loop over the children of one element
(end tag `raw`, whatever `rest` follows), `abs st cs` its child-level semantics. If every child renders to at
least one event, the loop on the end tag is `abs st []`, and one pass over a well-formed child followed by what
`abs` makes of the others is `abs` of all of them, then the loop computes `abs` with any fuel that exceeds the
number of events. -/
theorem refines_of_pass {σ α χ : Type} {L : Nat → σ → List Ev → Except Err (α × List Ev)}
    {abs : σ → List χ → Except Err α} {render : χ → List Ev} {WF : χ → Prop} {raw : String} {rest : List Ev}
    (pos : ∀ c, 0 < (render c).length)
    (nil : ∀ f st, L (f + 1) st (.end raw :: rest) = liftR (abs st []) rest)
    (cons : ∀ f st c cs tail, WF c → (render c).length ≤ f → (∀ st', L f st' tail = liftR (abs st' cs) rest) →
      L (f + 1) st (render c ++ tail) = liftR (abs st (c :: cs)) rest)
    (cs : List χ) (hwf : ∀ c ∈ cs, WF c) (fuel : Nat) (st : σ) (hf : (cs.flatMap render).length + 1 ≤ fuel) :
    L fuel st (cs.flatMap render ++ .end raw :: rest) = liftR (abs st cs) rest := by
  induction cs generalizing fuel st with
  | nil =>
    cases fuel with
    | zero => exact absurd hf (Nat.not_succ_le_zero _)
    | succ f => exact nil f st
  | cons c cs ih =>
    cases fuel with
    | zero => exact absurd hf (Nat.not_succ_le_zero _)
    | succ f =>
      obtain ⟨hwc, hwf'⟩ := List.forall_mem_cons.mp hwf
      simp only [List.flatMap_cons, List.append_assoc, List.length_append] at hf ⊢
      have h := Nat.le_of_succ_le_succ hf
      exact cons f st c cs _ hwc (Nat.le_of_add_right_le h) fun st' =>
        ih hwf' f st' (Nat.lt_of_lt_of_le (Nat.lt_add_of_pos_left (pos c)) h)

theorem emptyLoop_refines (cs : List Top) (hwf : ∀ c ∈ cs, c.WF) (fuel : Nat) (raw : String)
    (th : Bool) (errors : List RpcError) (rest : List Ev)
    (hf : (cs.flatMap Top.render).length + 1 ≤ fuel) :
    emptyLoop fuel raw th errors (cs.flatMap Top.render ++ .end raw :: rest)
      = liftR (emptyAbs th errors cs) rest := by
  refine refines_of_pass (L := fun f st => emptyLoop f raw st.1 st.2) (abs := fun st => emptyAbs st.1 st.2)
    Top.render_pos (fun f st => ?_) (fun f st c cs tail hwc hf ih => ?_) cs hwf fuel (th, errors) hf
  · simp only [emptyLoop, beq_self_eq_true, if_true, emptyAbs, apply_ite (liftR · rest), liftR_ok, liftR_error]
  simp only [Prod.forall] at ih
  cases c with
  | ok =>
    simp only [Top.render, List.cons_append, List.nil_append, emptyLoop, emptyAbs, okTag, baseTag_is, beq_self_eq_true,
      Bool.true_and, apply_ite (liftR · rest), liftR_error, ih]
  | comment => simp only [Top.render, List.cons_append, List.nil_append, emptyLoop, emptyAbs, ih]
  | data s inner =>
    simp only [Top.render, leaf_append, emptyLoop, emptyAbs, baseTag_is]
    simp [liftR]
  | results r ics =>
    simp only [Top.render, List.cons_append, emptyLoop, emptyAbs]
    simp [Tag.is, liftR]
  | err e =>
    have hr := readRpcError_render e hwc f hf
    simp only [Top.render, e.render_eq, emptyLoop, emptyAbs, rpcErrorTag_is, String.reduceBEq, Bool.true_and, hr,
      apply_ite (liftR · rest), liftR_error, ih]

theorem dataLoop_refines (cs : List Top) (hwf : ∀ c ∈ cs, c.WF) (fuel : Nat) (raw : String)
    (th : Option String) (errors : List RpcError) (rest : List Ev)
    (hf : (cs.flatMap Top.render).length + 1 ≤ fuel) :
    dataLoop fuel raw th errors (cs.flatMap Top.render ++ .end raw :: rest)
      = liftR (dataAbs th errors cs) rest := by
  refine refines_of_pass (L := fun f st => dataLoop f raw st.1 st.2) (abs := fun st => dataAbs st.1 st.2)
    Top.render_pos (fun f st => ?_) (fun f st c cs tail hwc hf ih => ?_) cs hwf fuel (th, errors) hf
  · simp only [dataLoop, beq_self_eq_true, if_true, dataAbs]
    cases st.1 <;> simp only [apply_ite (liftR · rest), liftR_ok, liftR_error]
  simp only [Prod.forall] at ih
  cases c with
  | ok =>
    simp only [Top.render, List.cons_append, List.nil_append, dataLoop, dataAbs]
    simp [liftR]
  | comment => simp only [Top.render, List.cons_append, List.nil_append, dataLoop, dataAbs, ih]
  | data s inner =>
    simp only [Top.render, leaf_append, dataLoop, dataAbs, baseTag_is, beq_self_eq_true, Bool.true_and,
      String.reduceBEq, Bool.false_and, Bool.false_eq_true, if_false, readText_leaf _ _ _ _ hwc,
      apply_ite (liftR · rest), liftR_error, ih]
  | results r ics =>
    simp only [Top.render, List.cons_append, dataLoop, dataAbs]
    simp [Tag.is, liftR]
  | err e =>
    have hr := readRpcError_render e hwc f hf
    simp only [Top.render, e.render_eq, dataLoop, dataAbs, rpcErrorTag_is, String.reduceBEq, Bool.false_and,
      Bool.true_and, Bool.false_eq_true, if_false, hr, apply_ite (liftR · rest), liftR_error, ih]

theorem bareLoop_refines (cs : List Top) (hwf : ∀ c ∈ cs, c.WF) (fuel : Nat) (raw : String)
    (errors : List RpcError) (rest : List Ev)
    (hf : (cs.flatMap Top.render).length + 1 ≤ fuel) :
    bareLoop fuel raw errors (cs.flatMap Top.render ++ .end raw :: rest)
      = liftR (bareAbs errors cs) rest := by
  refine refines_of_pass (L := fun f errors => bareLoop f raw errors) (abs := bareAbs)
    Top.render_pos (fun f errors => ?_) (fun f errors c cs tail hwc hf ih => ?_) cs hwf fuel errors hf
  · simp only [bareLoop, beq_self_eq_true, if_true, bareAbs, apply_ite (liftR · rest), liftR_ok]
  cases c with
  | ok =>
    simp only [Top.render, List.cons_append, List.nil_append, bareLoop, bareAbs]
    simp [liftR]
  | comment => simp only [Top.render, List.cons_append, List.nil_append, bareLoop, bareAbs, ih]
  | data s inner =>
    simp only [Top.render, leaf_append, bareLoop, bareAbs, baseTag_is]
    simp [liftR]
  | results r ics =>
    simp only [Top.render, List.cons_append, bareLoop, bareAbs]
    simp [Tag.is, liftR]
  | err e =>
    have hr := readRpcError_render e hwc f hf
    simp only [Top.render, e.render_eq, bareLoop, bareAbs, rpcErrorTag_is, String.reduceBEq, if_true, hr, ih]

theorem loadInner_refines (c : RCfg) (cs : List Inner) (hwf : ∀ x ∈ cs, x.WF) (fuel : Nat) (raw : String)
    (st : LoadSt) (rest : List Ev)
    (hf : (cs.flatMap Inner.render).length + 1 ≤ fuel) :
    loadInner c fuel raw st (cs.flatMap Inner.render ++ .end raw :: rest)
      = liftR (loadInnerAbs c st cs) rest := by
  refine refines_of_pass (L := fun f st => loadInner c f raw st) (abs := loadInnerAbs c)
    Inner.render_pos (fun f st => ?_) (fun f st x cs tail hwx hf ih => ?_) cs hwf fuel st hf
  · simp [loadInner, loadInnerAbs, liftR]
  cases x with
  | ok =>
    simp only [Inner.render, List.cons_append, List.nil_append, loadInner, loadInnerAbs, okTag, baseTag_is,
      beq_self_eq_true, Bool.true_and, apply_ite (liftR · rest), liftR_error, ih]
  | comment => simp only [Inner.render, List.cons_append, List.nil_append, loadInner, loadInnerAbs, ih]
  | count s inner =>
    simp only [Inner.render, leaf_append, loadInner, loadInnerAbs, baseTag_is, String.reduceBEq, Bool.false_and,
      Bool.false_eq_true, if_false, beq_self_eq_true, Bool.true_and, readText_leaf _ _ _ _ hwx,
      apply_ite (liftR · rest), liftR_error]
    cases parseUsize (c.tok s) <;> simp only [ih, liftR_error]
  | err e =>
    have hr := readRpcError_render e hwx f hf
    simp only [Inner.render, e.render_eq, loadInner, loadInnerAbs, rpcErrorTag_is, String.reduceBEq, Bool.true_and,
      Bool.false_and, Bool.false_eq_true, if_false, hr, apply_ite (liftR · rest), liftR_error, ih]

theorem loadOuter_refines (c : RCfg) (cs : List Top) (hwf : ∀ x ∈ cs, x.WF) (fuel : Nat) (raw : String)
    (st : LoadSt) (rest : List Ev)
    (hf : (cs.flatMap Top.render).length + 1 ≤ fuel) :
    loadOuter c fuel raw st (cs.flatMap Top.render ++ .end raw :: rest)
      = liftR (loadAbs c st cs) rest := by
  refine refines_of_pass (L := fun f st => loadOuter c f raw st) (abs := loadAbs c)
    Top.render_pos (fun f st => ?_) (fun f st x cs tail hwx hf ih => ?_) cs hwf fuel st hf
  · simp only [loadOuter, beq_self_eq_true, if_true, loadAbs]
    cases st.count <;> simp only [apply_ite (liftR · rest), liftR_ok, liftR_error]
  cases x with
  | ok =>
    simp only [Top.render, List.cons_append, List.nil_append, loadOuter, loadAbs]
    simp [liftR]
  | comment => simp only [Top.render, List.cons_append, List.nil_append, loadOuter, loadAbs, ih]
  | data s inner =>
    simp only [Top.render, leaf_append, loadOuter, loadAbs, baseTag_is]
    simp [liftR]
  | err e =>
    simp only [Top.render, e.render_eq, loadOuter, loadAbs, rpcErrorTag_is]
    simp [liftR]
  | results r ics =>
    have hi := loadInner_refines c ics hwx f r st tail
      (by simp only [Top.render, List.length_cons, List.length_append, List.length_nil] at hf; omega)
    simp only [Top.render, List.cons_append, List.append_assoc, List.nil_append, loadOuter, loadAbs, Tag.is,
      beq_self_eq_true, Bool.true_and, hi, apply_ite (liftR · rest), liftR_error]
    cases loadInnerAbs c st ics <;> simp only [liftR_ok, liftR_error, ih]

theorem skipToEndLenient_inert (name : String) (inner tail : List Ev) (d : Nat) (h : Inert name inner) :
    skipToEndLenient name (inner ++ tail) d = skipToEndLenient name tail d := by
  induction inner with
  | nil => rfl
  | cons ev rest ih =>
    rw [inert_cons] at h
    rw [List.cons_append, skipToEndLenient_cons, h.1]
    exact ih h.2

def helloTag (raw : String) (attrs : List AttrItem) : Tag :=
  { ns := .bound BASE, lname := "hello", raw := raw, attrs := attrs, span := none }

def replyTag (raw idAttr : String) (extra : List AttrItem) : Tag :=
  { ns := .bound BASE, lname := "rpc-reply", raw := raw,
    attrs := .ok { key := "message-id", ns := .unbound, lname := "message-id", value := some idAttr } :: extra,
    span := none }

theorem replyDoc_eq (raw idAttr : String) (extra : List AttrItem) (cs : List Top) :
    replyDoc raw idAttr extra cs
      = .start (replyTag raw idAttr extra) :: (cs.flatMap Top.render ++ .end raw :: [.eof]) := by
  simp [replyDoc, replyTag]

theorem replyTag_id (raw idAttr : String) (extra : List AttrItem) (id : Nat) (hid : parseUsize idAttr = some id) :
    (match getAttr "message-id" (replyTag raw idAttr extra).attrs with
     | .error e => (.error e : Except Err Nat)
     | .ok none => .error .missing
     | .ok (some a) => parseMessageId a) = .ok id := by
  simp [getAttr, replyTag, parseMessageId, hid]

/-- `hin`: no event among the children carries the root's raw name (or is `Error` / `Eof`). Phase 1 does not read
the children, it skips to the end tag that matches the root by raw name, counting depth. -/
theorem readPartial_doc (c : RCfg) (raw idAttr : String) (extra : List AttrItem) (cs : List Top) (id : Nat)
    (hid : parseUsize idAttr = some id) (hin : Inert raw (cs.flatMap Top.render)) :
    readPartial c ((replyDoc raw idAttr extra cs).length + 1) none (replyDoc raw idAttr extra cs) = .ok id := by
  rw [replyDoc_eq, List.length_cons, readPartial]
  simp only [Tag.is, getAttr, replyTag, beq_self_eq_true, Bool.and_self, if_true, parseMessageId, hid,
    skipToEndLenient_inert _ _ _ _ hin]
  simp [skipToEndLenient, readPartial]

theorem readBody_doc (c : RCfg) (k : ReplyKind) (cs : List Top) (hwf : ∀ x ∈ cs, x.WF) (fuel : Nat) (t : Tag)
    (rest : List Ev) (hf : (cs.flatMap Top.render).length + 1 ≤ fuel) :
    readBody c k fuel t (cs.flatMap Top.render ++ .end t.raw :: rest) = liftR (replyAbs c k cs) rest := by
  cases k
  · exact emptyLoop_refines cs hwf fuel t.raw false [] rest hf
  · exact dataLoop_refines cs hwf fuel t.raw none [] rest hf
  · exact bareLoop_refines cs hwf fuel t.raw [] rest hf
  · exact loadOuter_refines c cs hwf fuel t.raw {} rest hf

theorem fromXmlReply_doc (c : RCfg) (k : ReplyKind) (raw idAttr : String) (extra : List AttrItem) (cs : List Top)
    (hwf : ∀ x ∈ cs, x.WF) (fuel : Nat) (rest : List Ev) (hf : (cs.flatMap Top.render).length + 1 ≤ fuel) :
    fromXmlReply c k (fuel + 1) none (.start (replyTag raw idAttr extra) :: (cs.flatMap Top.render ++ .end raw :: rest))
      = (match parseMessageId { key := "message-id", ns := .unbound, lname := "message-id", value := some idAttr } with
         | .error e => .error e
         | .ok id => (match replyAbs c k cs with
            | .ok b => fromXmlReply c k fuel (some (id, b)) rest
            | .error e => .error e)) := by
  have hb := readBody_doc c k cs hwf fuel (replyTag raw idAttr extra) rest hf
  rw [fromXmlReply]
  simp only [Tag.is, readReplyElem, getAttr, replyTag, beq_self_eq_true, Option.isSome_none, Bool.and_false, Bool.not_false,
    Bool.and_true, if_true] at hb ⊢
  cases parseMessageId _ with
  | error e => rfl
  | ok id => simp only [hb]; cases replyAbs c k cs <;> rfl

theorem readMessage_doc (c : RCfg) (k : ReplyKind) (raw idAttr : String) (extra : List AttrItem)
    (cs : List Top) (id : Nat) (hid : parseUsize idAttr = some id) (hwf : ∀ x ∈ cs, x.WF)
    (hin : Inert raw (cs.flatMap Top.render)) :
    readMessage c k (replyDoc raw idAttr extra cs) = outcomeOf (replyAbs c k cs) := by
  -- `rw` with the equations of `readMessage` and `phase2`: unfolding them by definitional equality makes the
  -- kernel run the readers on the part of the document that is written out
  rw [readMessage, readPartial_doc c raw idAttr extra cs id hid hin]
  dsimp only
  rw [phase2, replyDoc_eq, List.length_cons, fromXmlReply_doc c k raw idAttr extra cs hwf _ [.eof] (by simp)]
  simp only [parseMessageId, hid]
  cases replyAbs c k cs with
  | error e => rfl
  | ok b => simp [outcomeOf, fromXmlReply]

theorem fromXmlReply_second_root (c : RCfg) (hc : c.oneRoot = true) (k : ReplyKind) (fuel : Nat)
    (v : Nat × Body) (t : Tag) (rest : List Ev) :
    fromXmlReply c k (fuel + 1) (some v) (.start t :: rest) = .error .unexpected := by
  simp [fromXmlReply, hc]

end Xml
