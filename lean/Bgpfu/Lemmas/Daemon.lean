import Bgpfu.Model.Daemon
/-! Timelines of the daemon loop and how they decompose (`Timeline`, `trace_pair`), the `backoff`
invariant along a timeline, arithmetic of the back-off sequence. -/
namespace Daemon

theorem accepts_tick (s : State) (t : Nat) :
    (accepts s (.tick t) = true) = (s.phase = .waiting ∧ t = s.deadline ∧ s.now ≤ t) := by
  simp [accepts, and_assoc]

theorem accepts_runDone (s : State) (t : Nat) (ok : Bool) :
    (accepts s (.runDone t ok) = true) = (s.phase = .running ∧ s.now ≤ t) := by
  simp [accepts]

theorem accepts_hup (s : State) (t : Nat) :
    (accepts s (.hup t) = true) = (s.phase = .waiting ∧ s.now ≤ t ∧ t ≤ s.deadline) := by
  simp [accepts, and_assoc]

theorem accepts_int (s : State) (t : Nat) :
    (accepts s (.int t) = true) = (s.phase = .waiting ∧ s.now ≤ t ∧ t ≤ s.deadline) := by
  simp [accepts, and_assoc]

theorem accepts_term (s : State) (t : Nat) :
    (accepts s (.term t) = true) = (s.phase = .waiting ∧ s.now ≤ t ∧ t ≤ s.deadline) := by
  simp [accepts, and_assoc]

/-- turn `accepts (next … s e) e' = true` into its arithmetic content -/
macro "accepts_prop" "at" h:ident : tactic =>
  `(tactic| (simp only [accepts_tick, accepts_runDone, accepts_hup, accepts_int, accepts_term] at $h:ident
             try simp only [next] at $h:ident))

/-- `tr` is a timeline from `s`: every event is accepted in the state reached so far. -/
def Timeline (c : Cfg) (p : Nat) : State → List Ev → Prop
  | _, [] => True
  | s, e :: es => accepts s e = true ∧ Timeline c p (next c p s e) es

theorem run_cons_of_accepts (c : Cfg) (p : Nat) {s : State} {e : Ev} (es : List Ev)
    (h : accepts s e = true) : run c p s (e :: es) = run c p (next c p s e) es := by
  simp only [run, step, h, if_true]

theorem timeline_trace (c : Cfg) (p : Nat) (s : State) (evs : List Ev) :
    Timeline c p s (trace c p s evs) := by
  induction evs generalizing s with
  | nil => trivial
  | cons e es ih =>
    unfold trace
    split
    · exact ⟨‹_›, ih _⟩
    · exact ih s

theorem Timeline.trace_eq {c : Cfg} {p : Nat} {s : State} {tr : List Ev} (h : Timeline c p s tr) :
    trace c p s tr = tr := by
  induction tr generalizing s with
  | nil => rfl
  | cons e es ih => simp only [trace, h.1, if_true, ih h.2]

theorem timeline_append (c : Cfg) (p : Nat) (s : State) (xs ys : List Ev) :
    Timeline c p s (xs ++ ys) ↔ Timeline c p s xs ∧ Timeline c p (run c p s xs) ys := by
  induction xs generalizing s with
  | nil => simp only [List.nil_append, Timeline, run, true_and]
  | cons e es ih =>
    simp only [List.cons_append, Timeline, ih, and_assoc]
    exact and_congr_right fun ha => by rw [run_cons_of_accepts c p es ha]

theorem trace_append (c : Cfg) (p : Nat) (s : State) (xs ys : List Ev) :
    trace c p s (xs ++ ys) = trace c p s xs ++ trace c p (run c p s xs) ys := by
  induction xs generalizing s with
  | nil => simp [trace, run]
  | cons e es ih =>
    simp only [List.cons_append, trace, run, step]
    split <;> simp [ih]

theorem run_append (c : Cfg) (p : Nat) (s : State) (xs ys : List Ev) :
    run c p s (xs ++ ys) = run c p (run c p s xs) ys := by
  induction xs generalizing s with
  | nil => simp [run]
  | cons e es ih => simp [run, ih]

theorem trace_trace (c : Cfg) (p : Nat) (s : State) (evs : List Ev) :
    trace c p s (trace c p s evs) = trace c p s evs :=
  (timeline_trace c p s evs).trace_eq

theorem run_trace (c : Cfg) (p : Nat) (s : State) (evs : List Ev) :
    run c p s (trace c p s evs) = run c p s evs := by
  induction evs generalizing s with
  | nil => rfl
  | cons e es ih =>
    by_cases hacc : accepts s e = true <;> simp [trace, run, step, hacc, ih]

theorem trace_pair (c : Cfg) (p : Nat) (s : State) (evs pre : List Ev) (a b : Ev) (post : List Ev)
    (h : trace c p s evs = pre ++ a :: b :: post) :
    Timeline c p s pre ∧ accepts (run c p s pre) a = true ∧
      accepts (next c p (run c p s pre) a) b = true := by
  have ht := timeline_trace c p s evs
  rw [h, timeline_append] at ht
  exact ⟨ht.1, ht.2.1, ht.2.2.1⟩

theorem next_exit_phase (c : Cfg) (p : Nat) (s : State) {e : Ev} {t : Nat}
    (he : e = .int t ∨ e = .term t) : (next c p s e).phase = .exited := by
  rcases he with rfl | rfl <;> rfl

theorem accepts_exited {s : State} (hs : s.phase = .exited) (e : Ev) : accepts s e = false := by
  cases e <;> simp [accepts, hs]

theorem exited_stuck (c : Cfg) (p : Nat) {s : State} (hs : s.phase = .exited) (evs : List Ev) :
    trace c p s evs = [] ∧ run c p s evs = s := by
  induction evs with
  | nil => exact ⟨rfl, rfl⟩
  | cons a as ih => simp [trace, run, step, accepts_exited hs a, ih]

theorem streakFrom_zero (xs : List Ev) (h : ∀ t, Ev.runDone t false ∉ xs) : streakFrom 0 xs = 0 := by
  induction xs with
  | nil => simp [streakFrom]
  | cons e es ih =>
    have hes : ∀ t, Ev.runDone t false ∉ es := fun t ht => h t (List.mem_cons_of_mem _ ht)
    cases e with
    | runDone t ok =>
      cases ok with
      | true => simp only [streakFrom]; exact ih hes
      | false => exact absurd (List.mem_cons_self) (h t)
    | _ => simp only [streakFrom]; exact ih hes

theorem streakFrom_append (k : Nat) (xs ys : List Ev) :
    streakFrom k (xs ++ ys) = streakFrom (streakFrom k xs) ys := by
  induction xs generalizing k with
  | nil => simp [streakFrom]
  | cons e es ih =>
    cases e with
    | runDone t ok => cases ok <;> simp [streakFrom, ih]
    | _ => simp [streakFrom, ih]

theorem streakFrom_ge (k : Nat) (xs : List Ev) (h : ∀ t, Ev.runDone t true ∉ xs) :
    k ≤ streakFrom k xs := by
  induction xs generalizing k with
  | nil => simp [streakFrom]
  | cons e es ih =>
    have hes : ∀ t, Ev.runDone t true ∉ es := fun t ht => h t (List.mem_cons_of_mem _ ht)
    cases e with
    | runDone t ok =>
      cases ok with
      | true => exact absurd (List.mem_cons_self) (h t)
      | false => simp only [streakFrom]; have := ih (k + 1) hes; omega
    | _ => simp only [streakFrom]; exact ih k hes

theorem streak_succ_le (pre mid : List Ev) (t₁ t₂ : Nat) (h : ∀ t, Ev.runDone t true ∉ mid) :
    streak pre + 1 ≤ streak (pre ++ .runDone t₁ false :: .tick t₂ :: mid) := by
  simp only [streak, streakFrom_append, streakFrom]
  exact streakFrom_ge _ mid h

/-- the invariant: `backoff` is the back-off sequence at the current streak of failures -/
theorem Timeline.backoff {c : Cfg} {p : Nat} {s : State} {tr : List Ev} (ht : Timeline c p s tr)
    {k : Nat} (h : s.backoff = backoffAt c p k) :
    (run c p s tr).backoff = backoffAt c p (streakFrom k tr) := by
  induction tr generalizing s k with
  | nil => exact h
  | cons e es ih =>
    rw [run_cons_of_accepts c p es ht.1]
    cases e with
    | runDone t ok =>
      cases ok with
      | true => exact ih ht.2 (k := 0) rfl
      | false => exact ih ht.2 (k := k + 1) (by simp only [next, backoffAt, h])
    | _ => exact ih ht.2 (k := k) h

theorem Timeline.backoff_init {c : Cfg} {p : Nat} {tr : List Ev} (ht : Timeline c p init tr) :
    (run c p init tr).backoff = backoffAt c p (streak tr) :=
  ht.backoff (k := 0) rfl

theorem next_run_at (c : Cfg) (p : Nat) (evs pre post : List Ev) (t₁ t₂ : Nat) (ok : Bool)
    (h : trace c p init evs = pre ++ .runDone t₁ ok :: .tick t₂ :: post) :
    t₂ = t₁ + if ok = true then p else backoffAt c p (streak pre) := by
  obtain ⟨hpre, -, hb⟩ := trace_pair c p init evs pre _ _ post h
  have hbo := hpre.backoff_init
  cases ok with
  | true => accepts_prop at hb; exact hb.2.1
  | false => accepts_prop at hb; exact hbo ▸ hb.2.1

theorem cap_fixed (p : Nat) : cap .fixed p = max p minBackoff := rfl

theorem cap_pinned (p : Nat) : cap .pinned p = p := rfl

theorem minBackoff_pos : 0 < minBackoff := by decide

theorem backoffAt_succ (c : Cfg) (p n : Nat) :
    backoffAt c p (n + 1) = min (cap c p) (2 * backoffAt c p n) := rfl

/-- capping commutes with doubling: this is why the capped doubling has a closed form -/
theorem min_double_min (C y : Nat) : min C (2 * min C y) = min C (2 * y) := by
  by_cases h : C ≤ y
  · rw [Nat.min_eq_left h, Nat.min_eq_left (Nat.le_mul_of_pos_left C Nat.two_pos),
      Nat.min_eq_left (Nat.le_trans h (Nat.le_mul_of_pos_left y Nat.two_pos))]
  · rw [Nat.min_eq_right (Nat.le_of_not_le h)]

/-- closed form for either rule, from the first failure on (under the pinned rule the start value,
one minute, may lie above the cap) -/
theorem backoffAt_closed (c : Cfg) (p n : Nat) :
    backoffAt c p (n + 1) = min (cap c p) (minBackoff * 2 ^ (n + 1)) := by
  induction n with
  | zero => rw [backoffAt_succ, backoffAt, Nat.pow_one, Nat.mul_comm]
  | succ n ih =>
    rw [backoffAt_succ, ih, Nat.pow_succ _ (n + 1), Nat.mul_comm _ 2, Nat.mul_left_comm]
    exact min_double_min ..

theorem backoffAt_bounds (c : Cfg) (p n : Nat) :
    min minBackoff p ≤ backoffAt c p n ∧ backoffAt c p n ≤ max minBackoff p := by
  have hc : min minBackoff p ≤ cap c p ∧ cap c p ≤ max minBackoff p := by
    unfold cap; split <;> omega
  cases n with
  | zero => exact ⟨Nat.min_le_left .., Nat.le_max_left ..⟩
  | succ n =>
    rw [backoffAt_closed]
    exact ⟨Nat.le_min.2 ⟨hc.1, Nat.le_trans (Nat.min_le_left ..) (Nat.le_mul_of_pos_right _ (Nat.two_pow_pos _))⟩,
      Nat.le_trans (Nat.min_le_left ..) hc.2⟩

/-- the repaired rule: the cap is at least one minute, so the closed form holds from the start -/
theorem backoffAt_fixed_closed (p n : Nat) :
    backoffAt .fixed p n = min (max p minBackoff) (minBackoff * 2 ^ n) := by
  cases n with
  | zero =>
    rw [backoffAt, Nat.pow_zero, Nat.mul_one]
    exact (Nat.min_eq_right (Nat.le_max_right ..)).symm
  | succ n => exact backoffAt_closed .fixed p n

theorem backoffAt_fixed_ge_min (p n : Nat) : minBackoff ≤ backoffAt .fixed p n := by
  rw [backoffAt_fixed_closed]
  exact Nat.le_min.2 ⟨Nat.le_max_right .., Nat.le_mul_of_pos_right _ (Nat.two_pow_pos n)⟩

theorem backoffAt_fixed_mono (p : Nat) {m n : Nat} (h : m ≤ n) :
    backoffAt .fixed p m ≤ backoffAt .fixed p n := by
  have h2 := Nat.mul_le_mul_left minBackoff (Nat.pow_le_pow_right Nat.two_pos h)
  rw [backoffAt_fixed_closed, backoffAt_fixed_closed]
  exact Nat.le_min.2 ⟨Nat.min_le_left .., Nat.le_trans (Nat.min_le_right ..) h2⟩

theorem backoffAt_fixed_strict (p n : Nat) (h : backoffAt .fixed p n < max p minBackoff) :
    backoffAt .fixed p n < backoffAt .fixed p (n + 1) := by
  have := backoffAt_fixed_ge_min p n
  have := minBackoff_pos
  rw [backoffAt_succ, cap_fixed]
  exact Nat.lt_min.2 ⟨h, by omega⟩

theorem delay_ge (c : Cfg) (p k : Nat) (ok : Bool) :
    min minBackoff p ≤ if ok = true then p else backoffAt c p k := by
  cases ok with
  | true => exact Nat.min_le_right ..
  | false => exact (backoffAt_bounds c p k).1

end Daemon
