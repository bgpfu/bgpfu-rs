import Bgpfu.Model.RpslSpec
/-!
Lemmas about the RPSL model: prefixes, range operators (model vs. RFC 2622 reading), partial-correctness
triples for the `M` monad (`M.Sat`) and the rule they give for `evalWith` / `eval`.
-/
namespace Rpsl
open RpslSpec

theorem Pfx.trunc_len (q : Pfx) (j : Nat) : (q.trunc j).len = j := rfl
theorem Pfx.trunc_fam (q : Pfx) (j : Nat) : (q.trunc j).fam = q.fam := rfl

theorem Pfx.trunc_self (q : Pfx) : q.trunc q.len = q := by
  cases q; simp [Pfx.trunc]

theorem Pfx.covers_iff (p q : Pfx) : p.covers q = true ↔ p.len ≤ q.len ∧ q.trunc p.len = p := by
  simp [Pfx.covers]

theorem Pfx.covers_fam {p q : Pfx} (h : p.covers q = true) : p.fam = q.fam := by
  have := ((Pfx.covers_iff p q).mp h).2
  rw [← this]; rfl

theorem Pfx.covers_trunc (q : Pfx) (j : Nat) (h : j ≤ q.len) : (q.trunc j).covers q = true := by
  simp [Pfx.covers_iff, Pfx.trunc_len, h]

theorem Pfx.covers_refl (q : Pfx) : q.covers q = true :=
  (Pfx.covers_iff q q).mpr ⟨Nat.le_refl _, Pfx.trunc_self q⟩

theorem Pfx.eq_of_covers {p q : Pfx} (h : p.covers q = true) (hl : q.len = p.len) : q = p := by
  have ht := ((Pfx.covers_iff p q).mp h).2
  rwa [← hl, Pfx.trunc_self] at ht

theorem Pfx.trunc_trunc (q : Pfx) (i j : Nat) (h1 : i ≤ j) (h2 : j ≤ q.len) :
    (q.trunc j).trunc i = q.trunc i := by
  simp only [Pfx.trunc, Pfx.mk.injEq, true_and, and_true]
  rw [← Nat.shiftRight_add]
  congr 1
  omega

theorem Pfx.covers_trans {a b c : Pfx} (h1 : a.covers b = true) (h2 : b.covers c = true) :
    a.covers c = true := by
  obtain ⟨l1, t1⟩ := (Pfx.covers_iff a b).mp h1
  obtain ⟨l2, t2⟩ := (Pfx.covers_iff b c).mp h2
  refine (Pfx.covers_iff a c).mpr ⟨by omega, ?_⟩
  calc c.trunc a.len = (c.trunc b.len).trunc a.len := (Pfx.trunc_trunc c a.len b.len l1 l2).symm
    _ = b.trunc a.len := by rw [t2]
    _ = a := t1

theorem Pfx.covers_trunc_of_covers {a q : Pfx} (h : a.covers q = true) (j : Nat) (h1 : a.len ≤ j)
    (h2 : j ≤ q.len) : a.covers (q.trunc j) = true := by
  obtain ⟨_, t⟩ := (Pfx.covers_iff a q).mp h
  refine (Pfx.covers_iff a _).mpr ⟨h1, ?_⟩
  rw [Pfx.trunc_trunc q a.len j h1 h2, t]

theorem Range.mem_iff (r : Range) (q : Pfx) :
    r.mem q = true ↔ r.pfx.covers q = true ∧ r.lo ≤ q.len ∧ q.len ≤ r.hi := by
  simp [Range.mem, and_assoc]

theorem Range.ofPfx_mem (p q : Pfx) : (Range.ofPfx p).mem q = true ↔ q = p := by
  rw [Range.mem_iff]
  exact ⟨fun ⟨hc, h1, h2⟩ => Pfx.eq_of_covers hc (Nat.le_antisymm h2 h1),
    fun h => h ▸ ⟨Pfx.covers_refl q, Nat.le_refl _, Nat.le_refl _⟩⟩

theorem PSet.ofPfxRanges (ps : List Pfx) (q : Pfx) :
    PSet.ofRanges (ps.map Range.ofPfx) q = true ↔ q ∈ ps := by
  simp only [PSet.ofRanges, List.any_map, List.any_eq_true, Function.comp, Range.ofPfx_mem]
  constructor
  · rintro ⟨p, hp, rfl⟩; exact hp
  · intro h; exact ⟨q, h, rfl⟩

/-! ### range operators: the model (`opInterval`), RFC 2622 (`Admits`) and the code (`applyRange`) -/

/-- the lengths `l` an operator selects below a member of length `j`, in a family with maximum
length `M`: what `opInterval` says, as a proposition -/
def Selects (op : RangeOp) (M j l : Nat) : Prop :=
  match op with
  | .none => l = j
  | .lessIncl => j ≤ l ∧ l ≤ M
  | .lessExcl => j < l ∧ l ≤ M
  | .exact n => n ≤ M ∧ j ≤ n ∧ l = n
  | .range n m => n ≤ M ∧ m ≤ M ∧ j ≤ l ∧ n ≤ l ∧ l ≤ m

theorem opInterval_selects (op : RangeOp) (M j l : Nat) :
    (match opInterval op M j with
      | some (a, b) => decide (a ≤ l) && decide (l ≤ b)
      | none => false) = true ↔ Selects op M j l := by
  cases op with
  | none => simp [opInterval, Selects]; omega
  | lessIncl => simp [opInterval, Selects]
  | lessExcl => simp only [opInterval, Selects]; by_cases h : j + 1 ≤ M <;> simp [h] <;> omega
  | exact n => simp only [opInterval, Selects]; by_cases h : n ≤ M ∧ j ≤ n <;> simp [h] <;> omega
  | range n m =>
    simp only [opInterval, Selects]; by_cases h : n ≤ M ∧ m ≤ M ∧ max j n ≤ m <;> simp [h] <;> omega

theorem Selects.le {op : RangeOp} {M j l : Nat} (h : Selects op M j l) : j ≤ l := by
  cases op <;> simp only [Selects] at h <;> omega

theorem Selects.anti {op : RangeOp} {M i j l : Nat} (hop : op ≠ .none) (hij : i ≤ j) (h : Selects op M j l) :
    Selects op M i l := by
  cases op with
  | none => exact absurd rfl hop
  | _ => simp only [Selects] at h ⊢; omega

theorem selects_admits (op : RangeOp) (M j l : Nat) (h1 : j ≤ l) (h2 : l ≤ M) (hw : OpWithin M op) :
    Selects op M j l ↔ Admits op j l := by
  cases op with
  | lessIncl => exact ⟨fun _ => trivial, fun _ => ⟨h1, h2⟩⟩
  | _ => simp only [Selects, Admits, OpWithin] at hw ⊢ <;> omega

theorem applyOp_iff (op : RangeOp) (s : PSet) (q : Pfx) :
    applyOp op s q = true ↔
      ∃ p, s p = true ∧ p.covers q = true ∧ Selects op q.fam.maxLen p.len q.len := by
  simp only [applyOp, List.any_eq_true, List.mem_range, Bool.and_eq_true]
  constructor
  · rintro ⟨j, hj, h1, h2⟩
    exact ⟨q.trunc j, h1, Pfx.covers_trunc q j (by omega), (opInterval_selects ..).mp h2⟩
  · rintro ⟨p, h1, h2, h3⟩
    obtain ⟨hl, ht⟩ := (Pfx.covers_iff p q).mp h2
    refine ⟨p.len, by omega, ?_, (opInterval_selects ..).mpr h3⟩
    rw [ht]; exact h1

theorem applyOp_opSet (op : RangeOp) (s : PSet) (d : Pfx → Prop) (q : Pfx) (hq : q.Valid)
    (hw : ∀ p, s p = true → OpWithin p.fam.maxLen op)
    (hsd : ∀ p, p.Valid → (s p = true ↔ d p)) :
    applyOp op s q = true ↔ opSet op d q := by
  rw [applyOp_iff]
  -- a member covering `q` is valid, in the set iff in `d`, and `Selects` reads as `Admits` for it
  refine exists_congr fun p => ?_
  rw [and_left_comm, and_left_comm (a := d p)]
  refine and_congr_right fun hc => ?_
  have hl := ((Pfx.covers_iff p q).mp hc).1
  have hf := Pfx.covers_fam hc
  have hpv : p.Valid := by unfold Pfx.Valid at hq ⊢; rw [hf]; omega
  exact (and_congr_right fun hs => selects_admits op _ _ _ hl hq (hf ▸ hw p hs)).trans
    (and_congr_left' (hsd p hpv))

/-- well-formed range (`PrefixRange::new`): `prefix.len ≤ lo ≤ hi` -/
def Range.Wf (r : Range) : Prop := r.pfx.len ≤ r.lo ∧ r.lo ≤ r.hi

/-- every operator but the empty one looks at the range's *lower* bound only (generic-ip's
`with_length_range` discards the upper bound) -/
theorem applyRange_mem (op : RangeOp) (r : Range) (hop : op ≠ .none) (q : Pfx) :
    (∃ r', applyRange op r = some (some r') ∧ r'.mem q = true) ↔
      r.pfx.covers q = true ∧ Selects op r.pfx.fam.maxLen r.lo q.len := by
  cases op with
  | none => exact absurd rfl hop
  | lessIncl => simp [applyRange, Selects, Range.mem_iff]
  | lessExcl =>
    simp only [applyRange, Selects]
    by_cases h : r.lo + 1 ≤ r.pfx.fam.maxLen <;> simp [h, Range.mem_iff] <;> omega
  | exact n =>
    simp only [applyRange, Selects]
    by_cases h1 : r.pfx.fam.maxLen < n
    · simp [h1]; omega
    · by_cases h2 : max r.lo n ≤ n <;> simp [h1, h2, Range.mem_iff] <;> omega
  | range n m =>
    simp only [applyRange, Selects]
    by_cases h1 : r.pfx.fam.maxLen < n ∨ r.pfx.fam.maxLen < m
    · simp [h1]; omega
    · by_cases h2 : max r.lo n ≤ m <;> simp [h1, h2, Range.mem_iff] <;> omega

theorem mem_applyRanges (op : RangeOp) (rs : List Range) (r' : Range) :
    r' ∈ applyRanges op rs ↔ ∃ r ∈ rs, applyRange op r = some (some r') := by
  simp only [applyRanges, List.mem_filterMap]
  refine exists_congr fun r => and_congr_right fun _ => ?_
  rcases applyRange op r with _ | _ | r'' <;> simp

theorem memberRange_eq_some (op : RangeOp) (p : Pfx) (r : Range) :
    memberRange op p = some r ↔ applyRange op (Range.ofPfx p) = some (some r) := by
  unfold memberRange
  rcases applyRange op (Range.ofPfx p) with _ | _ | r' <;> simp

theorem applyOp_range (op : RangeOp) (r : Range) (hr : r.Wf) (q : Pfx) :
    applyOp op r.mem q = true ↔ ∃ r', applyRange op r = some (some r') ∧ r'.mem q = true := by
  rw [applyOp_iff]
  by_cases hop : op = .none
  · subst hop
    simp only [applyRange, Option.some.injEq, exists_eq_left', Selects]
    exact ⟨fun ⟨p, hm, hc, hl⟩ => Pfx.eq_of_covers hc hl ▸ hm, fun hm => ⟨q, hm, Pfx.covers_refl q, rfl⟩⟩
  · rw [applyRange_mem op r hop q]
    constructor
    · rintro ⟨p, hm, hc, hs⟩
      obtain ⟨hPp, h1, _⟩ := (Range.mem_iff r p).mp hm
      have hPq := Pfx.covers_trans hPp hc
      exact ⟨hPq, Pfx.covers_fam hPq ▸ hs.anti hop h1⟩
    · rintro ⟨hPq, hs⟩
      rw [Pfx.covers_fam hPq] at hs
      have hl := hs.le
      exact ⟨q.trunc r.lo, (Range.mem_iff r _).mpr ⟨Pfx.covers_trunc_of_covers hPq _ hr.1 hl, Nat.le_refl _, hr.2⟩,
        Pfx.covers_trunc q _ hl, hs⟩

/-- why `applyOp` may be modelled on the set itself: whatever list of well-formed ranges
`output.ranges()` aggregates the set into, rpsl's `apply` on each range (`applyRanges`) gives the
set that the member-wise `applyOp` gives -/
theorem applyOp_ofRanges (op : RangeOp) (rs : List Range) (hrs : ∀ r ∈ rs, r.Wf) (q : Pfx) :
    applyOp op (PSet.ofRanges rs) q = true ↔ PSet.ofRanges (applyRanges op rs) q = true := by
  have hL : applyOp op (PSet.ofRanges rs) q = true ↔ ∃ r ∈ rs, applyOp op r.mem q = true := by
    simp only [applyOp_iff, PSet.ofRanges, List.any_eq_true]
    exact ⟨fun ⟨p, ⟨r, hr, hm⟩, h⟩ => ⟨r, hr, p, hm, h⟩, fun ⟨r, hr, p, hm, h⟩ => ⟨p, ⟨r, hr, hm⟩, h⟩⟩
  simp only [hL, PSet.ofRanges, List.any_eq_true, mem_applyRanges]
  constructor
  · rintro ⟨r, hr, h⟩
    obtain ⟨r', h1, h2⟩ := (applyOp_range op r (hrs r hr) q).mp h
    exact ⟨r', ⟨r, hr, h1⟩, h2⟩
  · rintro ⟨r', ⟨r, hr, h1⟩, h2⟩
    exact ⟨r, hr, (applyOp_range op r (hrs r hr) q).mpr ⟨r', h1, h2⟩⟩

theorem member_mem (op : RangeOp) (p q : Pfx) (hq : q.Valid) (hw : OpWithin p.fam.maxLen op) :
    (∃ r, memberRange op p = some r ∧ r.mem q = true) ↔ opSet op (· = p) q := by
  simp only [memberRange_eq_some]
  rw [← applyOp_range op _ ⟨Nat.le_refl _, Nat.le_refl _⟩ q]
  exact applyOp_opSet op _ _ q hq (fun p' h => (Range.ofPfx_mem p p').mp h ▸ hw)
    fun p' _ => Range.ofPfx_mem p p'

theorem litSet_iff (ms : List (Pfx × RangeOp)) (q : Pfx) (hq : q.Valid)
    (hw : ∀ m ∈ ms, OpWithin m.1.fam.maxLen m.2) :
    litSet ms q = true ↔ ∃ m ∈ ms, opSet m.2 (· = m.1) q := by
  unfold litSet PSet.ofRanges
  rw [List.any_eq_true]
  constructor
  · rintro ⟨r, hr, hm⟩
    obtain ⟨m, hm1, hm2⟩ := List.mem_filterMap.mp hr
    exact ⟨m, hm1, (member_mem m.2 m.1 q hq (hw m hm1)).mp ⟨r, hm2, hm⟩⟩
  · rintro ⟨m, hm1, hm2⟩
    obtain ⟨r, hr, hm⟩ := (member_mem m.2 m.1 q hq (hw m hm1)).mpr hm2
    exact ⟨r, List.mem_filterMap.mpr ⟨m, hm1, hr⟩, hm⟩

/-! ### the `M` monad: partial-correctness triples

`x.Sat I E Q`: started in a state satisfying `I`, the computation `x` ends — whatever its outcome —
in a state satisfying `I`, has emitted events satisfying `E`, and if it succeeded its value
satisfies `Q`.  `E` is required to hold of no events and of concatenations. -/

structure EvClosed {ω : Type} (E : List ω → Prop) : Prop where
  nil : E []
  append : ∀ a b, E a → E b → E (a ++ b)

def M.Sat {σ ω α : Type} (I : σ → Prop) (E : List ω → Prop) (x : M σ ω α) (Q : α → Prop) : Prop :=
  ∀ s, I s → I (x s).2.1 ∧ E (x s).2.2 ∧ ∀ a, (x s).1 = .ok a → Q a

section Sat
variable {σ ω α β : Type} {I : σ → Prop} {E : List ω → Prop}

theorem M.Sat.inv {x : M σ ω α} {Q : α → Prop} (h : x.Sat I E Q) {s : σ} (hs : I s) : I (x s).2.1 :=
  (h s hs).1

theorem M.Sat.events {x : M σ ω α} {Q : α → Prop} (h : x.Sat I E Q) {s : σ} (hs : I s) : E (x s).2.2 :=
  (h s hs).2.1

theorem M.Sat.post {x : M σ ω α} {Q : α → Prop} (h : x.Sat I E Q) {s : σ} (hs : I s) {a : α}
    (ha : (x s).1 = .ok a) : Q a :=
  (h s hs).2.2 a ha

theorem M.Sat.pure (hE : EvClosed E) {a : α} {Q : α → Prop} (h : Q a) :
    (M.pure a : M σ ω α).Sat I E Q :=
  fun _ hs => ⟨hs, hE.nil, fun _ e => by cases e; exact h⟩

theorem M.Sat.fail (hE : EvClosed E) {o : Outcome α} (ho : ∀ a, o ≠ .ok a) {Q : α → Prop} :
    M.Sat I E (fun st : σ => (o, st, ([] : List ω))) Q :=
  fun _ hs => ⟨hs, hE.nil, fun a e => absurd e (ho a)⟩

theorem M.Sat.mono {x : M σ ω α} {Q Q' : α → Prop} (h : x.Sat I E Q) (hq : ∀ a, Q a → Q' a) :
    x.Sat I E Q' :=
  fun s hs => ⟨(h s hs).1, (h s hs).2.1, fun a e => hq a ((h s hs).2.2 a e)⟩

theorem M.Sat.bind (hE : EvClosed E) {x : M σ ω α} {f : α → M σ ω β} {Q : α → Prop} {Q' : β → Prop}
    (hx : x.Sat I E Q) (hf : ∀ a, Q a → (f a).Sat I E Q') : (x.bind f).Sat I E Q' := by
  intro s hs
  have := hx s hs
  unfold M.bind
  revert this
  rcases x s with ⟨o, s1, ev1⟩
  rintro ⟨h1, h2, h3⟩
  cases o with
  | ok a =>
    have := hf a (h3 a rfl) s1 h1
    dsimp only
    revert this
    rcases f a s1 with ⟨o', s', ev'⟩
    rintro ⟨g1, g2, g3⟩
    exact ⟨g1, hE.append _ _ h2 g2, g3⟩
  | err e => exact ⟨h1, h2, fun _ e => by cases e⟩
  | panic k => exact ⟨h1, h2, fun _ e => by cases e⟩
  | diverge => exact ⟨h1, h2, fun _ e => by cases e⟩

end Sat

/-- the rule for `evalWith`: a postcondition `Q e` on the value of every expression `e` follows,
by induction on `e`, from what the resolvers (and `self`, for filter-sets) establish -/
theorem evalWith_sat {σ ω : Type} {I : σ → Prop} {E : List ω → Prop} (hE : EvClosed E)
    (R : Resolvers σ ω) (self : Expr → M σ ω PSet) (Q : Expr → PSet → Prop)
    (hany : Q .any PSet.any)
    (hpse : ∀ s op, (evalPse R s).Sat I E fun out => Q (.prefixSet s op) (applyOp op out))
    (hfs : ∀ n, (M.bind (R.filterSet n) self).Sat I E (Q (.filterSet n)))
    (hnot : ∀ e s, Q e s → Q (.not e) s.not)
    (hand : ∀ a b s t, Q a s → Q b t → Q (.and a b) (s.and t))
    (hor : ∀ a b s t, Q a s → Q b t → Q (.or a b) (s.or t)) :
    ∀ e, (evalWith R self e).Sat I E (Q e) := by
  intro e
  induction e with
  | any => exact .pure hE hany
  | prefixSet s op => exact .bind hE (hpse s op) fun _ h => .pure hE h
  | asPath => exact .fail hE fun _ e => by cases e
  | attrMatch => exact .fail hE fun _ e => by cases e
  | filterSet n => exact hfs n
  | not e ih => exact .bind hE ih fun s hs => .pure hE (hnot e s hs)
  | and a b iha ihb => exact .bind hE iha fun s hs => .bind hE ihb fun t ht => .pure hE (hand a b s t hs ht)
  | or a b iha ihb => exact .bind hE iha fun s hs => .bind hE ihb fun t ht => .pure hE (hor a b s t hs ht)

theorem eval_inv {σ ω : Type} {I : σ → Prop} {E : List ω → Prop} (hE : EvClosed E) (R : Resolvers σ ω)
    (hfs : ∀ n, (R.filterSet n).Sat I E fun _ => True)
    (hpse : ∀ s, (evalPse R s).Sat I E fun _ => True)
    (fuel : Nat) : ∀ e, (eval R fuel e).Sat I E fun _ => True := by
  have level : ∀ self : Expr → M σ ω PSet, (∀ e, (self e).Sat I E fun _ => True) →
      ∀ e, (evalWith R self e).Sat I E fun _ => True := fun self hself =>
    evalWith_sat hE R self (fun _ _ => True) trivial (fun s _ => hpse s)
      (fun n => .bind hE (hfs n) fun e _ => hself e)
      (fun _ _ _ => trivial) (fun _ _ _ _ _ _ => trivial) (fun _ _ _ _ _ _ => trivial)
  induction fuel with
  | zero => exact level _ fun _ => .fail hE fun _ h => by cases h
  | succ n ih => exact level _ ih

end Rpsl
