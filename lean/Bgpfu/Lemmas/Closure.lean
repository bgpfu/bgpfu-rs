import Bgpfu.Model.RpslSpec
/-!
Correctness of the visited-set closure `Irr.closure` (the fake IRRd's recursive `!i…,1` expansion)
with respect to the declarative reachability relation `RpslSpec.Reach`, for arbitrary (cyclic)
membership graphs; and sufficiency of `closureFuel` (i.e. termination: the fuel never runs out).
-/
namespace Irr
open Rpsl RpslSpec

variable {α : Type}

/-- reachability through set names none of which is in `seen` -/
inductive RA (g : Graph α) (seen : List String) (s : String) : String → Prop where
  | refl : s ∉ seen → RA g seen s s
  | step {n m : String} {ms : List (Mem α)} :
      RA g seen s n → g.lookup n = some ms → Mem.set m ∈ ms → m ∉ seen → RA g seen s m

theorem RA.start_not_seen {g : Graph α} {seen s n} (h : RA g seen s n) : s ∉ seen := by
  induction h with
  | refl h => exact h
  | step _ _ _ _ ih => exact ih

theorem RA.mono {g : Graph α} {seen seen' s n} (hs : ∀ x, x ∈ seen → x ∈ seen')
    (h : RA g seen' s n) : RA g seen s n := by
  induction h with
  | refl h => exact .refl fun hx => h (hs _ hx)
  | step _ hl hm hn ih => exact .step ih hl hm fun hx => hn (hs _ hx)

theorem RA.trans {g : Graph α} {seen a b c} (h1 : RA g seen a b) (h2 : RA g seen b c) :
    RA g seen a c := by
  induction h2 with
  | refl _ => exact h1
  | step _ hl hm hn ih => exact .step ih hl hm hn

theorem RA.of_lookup_none {g : Graph α} {seen s n} (h : RA g seen s n) (hl : g.lookup s = none) :
    n = s := by
  induction h with
  | refl _ => rfl
  | step _ hl' _ _ ih => subst ih; rw [hl] at hl'; cases hl'

/-- the key step of the completeness argument: a path avoiding `seen` either avoids `n` too, or
its part after the last visit of `n` starts at a member of `n` -/
theorem RA.split {g : Graph α} {seen : List String} {n t y : String} {ms : List (Mem α)}
    (hl : g.lookup n = some ms) (h : RA g seen t y) :
    y = n ∨ RA g (n :: seen) t y ∨ ∃ m, Mem.set m ∈ ms ∧ RA g (n :: seen) m y := by
  induction h with
  | refl hs =>
    by_cases e : t = n
    · exact .inl e
    · exact .inr (.inl (.refl (by simp [e, hs])))
  | @step k m ms' _ hl' hm hn ih =>
    by_cases e : m = n
    · exact .inl e
    · have hm' : m ∉ n :: seen := by simp [e, hn]
      rcases ih with h | h | ⟨m0, hm0, h⟩
      · subst h
        rw [hl] at hl'; cases hl'
        exact .inr (.inr ⟨m, hm, .refl hm'⟩)
      · exact .inr (.inl (.step h hl' hm hm'))
      · exact .inr (.inr ⟨m0, hm0, .step h hl' hm hm'⟩)

/-- what one work item contributes to the output -/
def Emits (g : Graph α) (seen : List String) : Mem α → α → Prop
  | .leaf y, x => x = y
  | .set m, x => ∃ n ms, RA g seen m n ∧ g.lookup n = some ms ∧ Mem.leaf x ∈ ms

theorem Emits.mono {g : Graph α} {seen seen' t x} (hs : ∀ x, x ∈ seen → x ∈ seen')
    (h : Emits g seen' t x) : Emits g seen t x := by
  cases t with
  | leaf y => exact h
  | set m =>
    obtain ⟨n, ms, h1, h2, h3⟩ := h
    exact ⟨n, ms, h1.mono hs, h2, h3⟩

theorem Emits.of_member {g : Graph α} {seen n ms t x} (hl : g.lookup n = some ms) (hn : n ∉ seen)
    (ht : t ∈ ms) (h : Emits g (n :: seen) t x) : Emits g seen (.set n) x := by
  cases t with
  | leaf y => cases h; exact ⟨n, ms, .refl hn, hl, ht⟩
  | set m =>
    obtain ⟨k, ms', h1, h2, h3⟩ := h
    have sub : ∀ y, y ∈ seen → y ∈ n :: seen := fun _ => List.mem_cons_of_mem _
    exact ⟨k, ms', (RA.step (.refl hn) hl ht fun hx => h1.start_not_seen (sub _ hx)).trans (h1.mono sub), h2, h3⟩

theorem Emits.split {g : Graph α} {seen n ms t x} (hl : g.lookup n = some ms) (h : Emits g seen t x) :
    Emits g (n :: seen) t x ∨ ∃ t' ∈ ms, Emits g (n :: seen) t' x := by
  cases t with
  | leaf y => exact .inl h
  | set m =>
    obtain ⟨y, ms', h1, h2, h3⟩ := h
    rcases h1.split hl with rfl | h1' | ⟨m', hm', h1'⟩
    · rw [hl] at h2; cases h2
      exact .inr ⟨.leaf x, h3, rfl⟩
    · exact .inl ⟨y, ms', h1', h2, h3⟩
    · exact .inr ⟨.set m', hm', y, ms', h1', h2, h3⟩

theorem weight_mono (g : Graph α) (seen : List String) (n : String) :
    weight g (n :: seen) ≤ weight g seen := by
  induction g with
  | nil => simp [weight]
  | cons e g ih =>
    simp only [weight, List.mem_cons]
    by_cases h1 : e.1 = n <;> by_cases h2 : e.1 ∈ seen <;> simp [h1, h2] <;> omega

theorem weight_expand (g : Graph α) (seen : List String) (n : String) (ms : List (Mem α))
    (hl : g.lookup n = some ms) (hn : n ∉ seen) :
    weight g (n :: seen) + ms.length + 1 ≤ weight g seen := by
  induction g with
  | nil => simp at hl
  | cons e g ih =>
    obtain ⟨k, v⟩ := e
    rw [List.lookup_cons] at hl
    by_cases hk : n = k
    · subst hk
      simp at hl
      subst hl
      have hm := weight_mono g seen n
      simp [weight, hn]
      omega
    · have : (n == k) = false := by simpa using hk
      rw [this] at hl
      have ih' := ih hl
      simp only [weight, List.mem_cons]
      by_cases h2 : k ∈ seen <;> simp [h2, Ne.symm hk] <;> omega

/-- `weight g seen + todo.length` bounds the steps still to come: a leaf or a skipped name shortens
`todo`, an expansion pays for the members it adds with the weight of the set (`weight_expand`) -/
theorem closure_spec (g : Graph α) (f : Nat) (todo : List (Mem α)) (seen : List String)
    (hf : weight g seen + todo.length < f) (x : α) :
    x ∈ closure g f todo seen ↔ ∃ t ∈ todo, Emits g seen t x := by
  induction f generalizing todo seen with
  | zero => omega
  | succ f ih =>
    match todo with
    | [] => simp [closure]
    | .leaf y :: rest =>
      have := ih rest seen (by simp at hf; omega)
      simp only [closure, List.mem_cons, this, exists_eq_or_imp, Emits]
    | .set n :: rest =>
      simp only [closure]
      have skip : ¬ Emits g seen (.set n) x →
          (x ∈ closure g f rest seen ↔ ∃ t ∈ Mem.set n :: rest, Emits g seen t x) := fun hno => by
        rw [ih rest seen (by simp at hf; omega)]
        simp only [List.mem_cons, exists_eq_or_imp]
        exact (or_iff_right hno).symm
      by_cases hs : n ∈ seen
      · rw [if_pos hs]
        exact skip fun ⟨_, _, h1, _, _⟩ => h1.start_not_seen hs
      · rw [if_neg hs]
        cases hl : g.lookup n with
        | none => exact skip fun ⟨k, ms', h1, h2, _⟩ => by rw [h1.of_lookup_none hl, hl] at h2; cases h2
        | some ms =>
          simp only []
          have hw := weight_expand g seen n ms hl hs
          rw [ih (ms ++ rest) (n :: seen) (by simp at hf ⊢; omega)]
          constructor
          · rintro ⟨t, ht, h⟩
            rcases List.mem_append.mp ht with ht | ht
            · exact ⟨.set n, List.mem_cons_self, h.of_member hl hs ht⟩
            · exact ⟨t, List.mem_cons_of_mem _ ht, h.mono fun _ => List.mem_cons_of_mem _⟩
          · rintro ⟨t, ht, h⟩
            rcases h.split hl with h' | ⟨t', ht', h'⟩
            · rcases List.mem_cons.mp ht with rfl | ht
              · obtain ⟨_, _, h1, _, _⟩ := h'
                exact absurd List.mem_cons_self h1.start_not_seen
              · exact ⟨t, List.mem_append_right _ ht, h'⟩
            · exact ⟨t', List.mem_append_left _ ht', h'⟩

theorem RA_nil_iff_reach (g : Graph α) (s n : String) : RA g [] s n ↔ Reach g s n := by
  constructor
  · intro h
    induction h with
    | refl _ => exact .refl
    | step _ hl hm _ ih => exact .step ih hl hm
  · intro h
    induction h with
    | refl => exact .refl (by simp)
    | step _ hl hm ih => exact .step ih hl hm (by simp)

theorem mem_closure_root (g : Graph α) (f : Nat) (hf : weight g [] + 1 < f) (s : String) (x : α) :
    x ∈ closure g f [.set s] [] ↔ LeafOf g s x := by
  rw [closure_spec g f _ _ (by simpa using hf)]
  simp only [List.mem_singleton, exists_eq_left, Emits, RA_nil_iff_reach]
  rfl

theorem mem_expand (g : Graph α) (s : String) (x : α) : x ∈ expand g s ↔ LeafOf g s x :=
  mem_closure_root g _ (by unfold closureFuel; omega) s x

theorem closure_fuel_irrelevant (g : Graph α) (s : String) (k : Nat) (x : α) :
    x ∈ closure g (closureFuel g + k) [.set s] [] ↔ x ∈ expand g s := by
  rw [mem_expand, mem_closure_root g _ (by unfold closureFuel; omega)]

end Irr
