import Bgpfu.Lemmas.Closure
import Bgpfu.Lemmas.Irr
/-!
What the four resolvers compute against a server that injects no faults, in terms of the
declarative specification (`RpslSpec`).
-/
namespace Irr
open Rpsl RpslSpec

theorem items_dataOr (db : Db) (items : List Item) : (dataOr db items).items = items := by
  unfold dataOr emptyResp
  cases items with
  | nil => by_cases h : db.emptyIsD <;> simp [h, Response.items]
  | cons i is => simp [Response.items]

theorem mem_routesOf (db : Db) (a : Nat) (q : Pfx) : q ∈ routesOf db a ↔ Routes db a q := by
  simp only [routesOf, Routes, List.mem_flatMap, List.mem_filter, beq_iff_eq, and_assoc]

theorem memberRange_none (p : Pfx) : memberRange .none p = some (Range.ofPfx p) := by
  simp [memberRange, applyRange]

theorem parseMember_plain (ranged : Bool) (p : Pfx) :
    parseMember ranged (.member p .none) = some (Range.ofPfx p) := by
  simp [parseMember]

theorem parseMember_ranged (p : Pfx) (op : RangeOp) :
    parseMember true (.member p op) = memberRange op p := by
  cases op <;> simp [parseMember, memberRange_none]

/-- the response item `it` contributes the prefix `q` to what `collect` gathers -/
def Hits (ranged : Bool) (it : Item) (q : Pfx) : Prop := ∃ r, parseMember ranged it = some r ∧ r.mem q = true

theorem mem_collect (ranged : Bool) (rs : List Response) (q : Pfx) :
    PSet.ofRanges (collect ranged rs) q = true ↔ ∃ r ∈ rs, ∃ it ∈ r.items, Hits ranged it q := by
  simp only [PSet.ofRanges, collect, List.any_eq_true, List.mem_flatMap, List.mem_filterMap, Hits]
  constructor
  · rintro ⟨rg, ⟨r, hr, it, hit, hp⟩, hm⟩; exact ⟨r, hr, it, hit, rg, hp, hm⟩
  · rintro ⟨r, hr, it, hit, rg, hp, hm⟩; exact ⟨rg, ⟨r, hr, it, hit, hp⟩, hm⟩

theorem hits_plain (ranged : Bool) (ps : List Pfx) (q : Pfx) :
    (∃ it ∈ ps.map (Item.member · .none), Hits ranged it q) ↔ q ∈ ps := by
  constructor
  · rintro ⟨_, hit, r, hp, hm⟩
    obtain ⟨p, hp', rfl⟩ := List.mem_map.mp hit
    rw [parseMember_plain] at hp
    cases hp
    exact (Range.ofPfx_mem p q).mp hm ▸ hp'
  · exact fun h => ⟨_, List.mem_map.mpr ⟨q, h, rfl⟩, _, parseMember_plain ranged q, (Range.ofPfx_mem q q).mpr rfl⟩

theorem hits_routes (db : Db) (a : Nat) (q : Pfx) :
    (∃ r ∈ [serve db (.routes4 a), serve db (.routes6 a)], ∃ it ∈ r.items, Hits false it q) ↔ Routes db a q := by
  simp only [List.mem_cons, List.not_mem_nil, or_false, exists_eq_or_imp, exists_eq_left, serve, items_dataOr,
    hits_plain, List.mem_filter, beq_iff_eq, ← mem_routesOf]
  constructor
  · rintro (⟨h, _⟩ | ⟨h, _⟩) <;> exact h
  · intro h
    cases hf : q.fam with
    | v4 => exact .inl ⟨h, rfl⟩
    | v6 => exact .inr ⟨h, rfl⟩

theorem mem_collect_routes (db : Db) (as : List Nat) (q : Pfx) :
    PSet.ofRanges (collect false ((as.flatMap fun a => [Query.routes4 a, Query.routes6 a]).map (serve db))) q = true ↔
      ∃ a ∈ as, Routes db a q := by
  rw [mem_collect, List.map_flatMap]
  simp only [List.mem_flatMap]
  constructor
  · rintro ⟨r, ⟨a, ha, hr⟩, h⟩; exact ⟨a, ha, (hits_routes db a q).mp ⟨r, hr, h⟩⟩
  · rintro ⟨a, ha, h⟩
    obtain ⟨r, hr, h⟩ := (hits_routes db a q).mpr h
    exact ⟨r, ⟨a, ha, hr⟩, h⟩

theorem clean_conn {st : Ev} (h : Clean st) : ∃ c, st.conn = some c ∧ c.unread = [] := h

theorem fst_finish {α : Type} (p : Pipe) (o : Outcome α) :
    (match p.drop with | (c, ev) => (o, c, ev)).1 = o := by
  rcases p.drop with ⟨c, ev⟩; rfl

theorem answers_faultfree_snd (db : Db) (i : Nat) (qs : List Query) :
    (answers { db := db, faults := [] } i qs).map (·.2) = qs.map (serve db) := by
  rw [answers_faultfree, List.map_map]; rfl

theorem resolveAutNum_sound (db : Db) (a : Nat) :
    (resolveAutNum { db := db, faults := [] } a).Sat Clean EvOk fun S => ∀ q, S q = true ↔ Routes db a q := by
  refine (resolveAutNum_sat _ a).mono ?_
  rintro S ⟨i, rfl⟩ q
  rw [answers_faultfree_snd, mem_collect]
  exact hits_routes db a q

theorem flatMap_followUps (items : List Item) :
    items.flatMap followUps =
      (items.filterMap parseAutNum).flatMap fun a => [Query.routes4 a, Query.routes6 a] := by
  induction items with
  | nil => rfl
  | cons it items ih =>
    cases h : parseAutNum it <;> simp [followUps, h, ih]

theorem filterMap_parseAutNum (as : List Nat) : (as.map Item.asn).filterMap parseAutNum = as := by
  induction as with
  | nil => rfl
  | cons a as ih => simp [parseAutNum, ih]

theorem resolveAsSet_sound (db : Db) (n : String) :
    (resolveAsSet { db := db, faults := [] } n).Sat Clean EvOk fun S =>
      ∀ q, S q = true ↔ ∃ a, LeafOf db.asSets n a ∧ Routes db a q := by
  refine (resolveAsSet_sat _ n).mono ?_
  rintro S ⟨i, hne, rfl⟩ q
  rw [respond_faultfree] at hne ⊢
  simp only [serve] at hne ⊢
  cases hl : db.asSets.lookup n with
  | none => rw [hl] at hne; exact absurd rfl (hne _)
  | some ms =>
    simp only [answers_faultfree_snd, items_dataOr, flatMap_followUps, filterMap_parseAutNum, mem_collect_routes,
      mem_expand]

theorem lookup_mem {β : Type} (l : List (String × β)) (k : String) (v : β) (h : l.lookup k = some v) :
    (k, v) ∈ l := by
  obtain ⟨l₁, l₂, rfl, _⟩ := List.lookup_eq_some_iff.mp h
  simp

theorem reach_of_lookup_none {α : Type} {g : Graph α} {s n : String} (h : Reach g s n)
    (hl : g.lookup s = none) : n = s :=
  ((RA_nil_iff_reach g s n).mpr h).of_lookup_none hl

/-- the side condition under which the model of the route-set resolver is faithful to RFC 2622:
either it honours range operators on route-set members (`cfg.rsRange`, the repair 381b0ea) and they
are within bounds, or no member carries an operator -/
def RsOk (cfg : Cfg) (db : Db) : Prop := (cfg.rsRange = true ∧ DbOpsOk db) ∨ RsPlain db

theorem resolveRouteSet_sound (cfg : Cfg) (db : Db) (n : String) (hcfg : RsOk cfg db) :
    (resolveRouteSet cfg { db := db, faults := [] } n).Sat Clean EvOk fun S =>
      ∀ q, q.Valid → (S q = true ↔ ∃ l, LeafOf db.routeSets n l ∧ leafSet db l q) := by
  refine (resolveRouteSet_sat cfg _ n).mono ?_
  rintro S ⟨i, rfl⟩ q hq
  rw [respond_faultfree, mem_collect]
  simp only [List.mem_singleton, exists_eq_left, serve]
  cases hl : db.routeSets.lookup n with
  | none =>
    refine ⟨fun ⟨_, h, _⟩ => by simp [Response.items] at h, ?_⟩
    rintro ⟨l, ⟨n', ms, h1, h2, _⟩, _⟩
    rw [reach_of_lookup_none h1 hl, hl] at h2; cases h2
  | some ms0 =>
    simp only [items_dataOr, List.mem_flatMap, mem_expand]
    have leaf : ∀ l, LeafOf db.routeSets n l →
        ((∃ it ∈ rsLeafItems db l, Hits cfg.rsRange it q) ↔ leafSet db l q) := by
      rintro l ⟨n', ms, _, h2, h3⟩
      have hm := lookup_mem _ _ _ h2
      cases l with
      | asn a => simp only [rsLeafItems, leafSet, hits_plain, mem_routesOf]
      | junk k =>
        refine ⟨fun ⟨_, hit, _, hp, _⟩ => ?_, False.elim⟩
        cases List.mem_singleton.mp hit
        cases hp
      | pfx p op =>
        simp only [rsLeafItems, leafSet, List.mem_singleton, exists_eq_left, Hits]
        rcases hcfg with ⟨h4, h5⟩ | h4
        · rw [h4, parseMember_ranged]; exact member_mem op p q hq (h5.1 _ hm _ h3 p op rfl)
        · obtain rfl := h4 _ hm _ h3 p op rfl
          rw [parseMember_plain, ← memberRange_none]; exact member_mem .none p q hq trivial
    constructor
    · rintro ⟨it, ⟨l, hl1, hit⟩, h⟩; exact ⟨l, hl1, (leaf l hl1).mp ⟨it, hit, h⟩⟩
    · rintro ⟨l, hl1, h⟩
      obtain ⟨it, hit, h⟩ := (leaf l hl1).mpr h
      exact ⟨it, ⟨l, hl1, hit⟩, h⟩

theorem firstMpFilter_objs (objs : List FsObj) :
    firstMpFilter (objs.map .obj) = (objs.filterMap (·.mpFilter)).head? := by
  induction objs with
  | nil => rfl
  | cons o objs ih =>
    cases h : o.mpFilter <;> simp [firstMpFilter, h, ih]

theorem filterOf_iff (db : Db) (n : String) (e : Expr) :
    FilterOf db n e ↔
      ((db.filterSets.lookup n).bind fun objs => (objs.filterMap (·.mpFilter)).head?) = some e := by
  unfold FilterOf
  cases db.filterSets.lookup n <;> simp

theorem firstMpFilter_serve (db : Db) (n : String) :
    firstMpFilter (serve db (.filterSet n)).items =
      (db.filterSets.lookup n).bind fun objs => (objs.filterMap (·.mpFilter)).head? := by
  simp only [serve]
  cases db.filterSets.lookup n with
  | none => rfl
  | some objs => simp only [items_dataOr, firstMpFilter_objs]; rfl

theorem resolveFilterSet_sound (db : Db) (n : String) :
    (resolveFilterSet { db := db, faults := [] } n).Sat Clean EvOk fun e =>
      FilterOf db n e ∨ ((∀ e', ¬ FilterOf db n e') ∧ e = .not .any) := by
  refine (resolveFilterSet_sat _ n).mono ?_
  rintro e ⟨i, rfl⟩
  simp only [respond_faultfree, List.flatMap_cons, List.flatMap_nil, List.append_nil, firstMpFilter_serve,
    filterOf_iff]
  cases (db.filterSets.lookup n).bind fun objs => (objs.filterMap (·.mpFilter)).head? with
  | none => exact .inr ⟨nofun, rfl⟩
  | some e => exact .inl rfl

theorem FilterOf.unique {db : Db} {n : String} {e e' : Expr} (h : FilterOf db n e) (h' : FilterOf db n e') :
    e = e' :=
  Option.some.inj (((filterOf_iff db n e).mp h).symm.trans ((filterOf_iff db n e').mp h'))

theorem FilterOf.opsOk {db : Db} {n : String} {e : Expr} (h : FilterOf db n e) (hdb : DbOpsOk db) :
    OpsOk e := by
  obtain ⟨objs, h1, h2⟩ := h
  have hm := lookup_mem _ _ _ h1
  have : e ∈ objs.filterMap (·.mpFilter) := List.mem_of_head? h2
  obtain ⟨o, ho, he⟩ := List.mem_filterMap.mp this
  exact hdb.2 _ hm o ho e he

end Irr
