import Bgpfu.Model.Junos
/-!
A keyed list is used only through `alGet` and `keys`, and every write of the reference Junos model is
an `alSet` (`applyTerm_eq_alSet`, `applyPatch_eq_alSet`), so `alGet_alSet` and `nodup_keys_alSet` carry
all frame and uniqueness arguments. `Shape` is the invariant of the terms of one policy;
`applyTerms_update` takes one shape to the next, and `applyUpdates` lifts that to any selection of the
updates of a run, loaded in any order.
-/
namespace Policy

/-! ### general facts about lists and `Except` -/

theorem map_filterMap_of_inv {α β : Type} (f : α → Option β) (g : β → α) (hf : ∀ a b, f a = some b → g b = a)
    (l : List α) : (l.filterMap f).map g = l.filter (fun a => (f a).isSome) := by
  induction l with
  | nil => simp
  | cons x xs ih =>
    cases h : f x with
    | none => simp [h, ih]
    | some u => simp [h, ih, hf x u h]

theorem ne_nil_of_mem_iff {α : Type} {a b : List α} (h : ∀ x, x ∈ a ↔ x ∈ b) (hb : b ≠ []) : a ≠ [] := by
  obtain ⟨y, hy⟩ := List.exists_mem_of_ne_nil b hb
  exact List.ne_nil_of_mem ((h y).2 hy)

theorem toOption_map_eq {ε ε' α β : Type} {x : Except ε α} {y : Except ε' β} {f : α → β}
    (h : x.toOption.map f = y.toOption) :
    (∀ a, x = .ok a → y = .ok (f a)) ∧ ∀ b, y = .ok b → ∃ a, x = .ok a ∧ f a = b := by
  cases x <;> cases y <;> simp_all [Except.toOption]

/-! ### keyed lists, `dedup`, `compare` -/

section AL
variable {α : Type}

theorem alGet_eq_none_iff (k : Str) (l : List (Str × α)) : alGet k l = none ↔ k ∉ keys l := by
  induction l with
  | nil => simp [alGet, keys]
  | cons x xs ih =>
    by_cases h : x.1 = k
    · simp [alGet, keys, h]
    · simp only [alGet, h, if_false, ih, keys, List.map_cons, List.mem_cons, not_or, Ne.symm h,
        not_false_eq_true, true_and]

theorem alGet_isSome_iff (k : Str) (l : List (Str × α)) : (alGet k l).isSome ↔ k ∈ keys l := by
  rw [← Decidable.not_iff_not, ← alGet_eq_none_iff]; cases alGet k l <;> simp

theorem mem_keys_of_alGet {k : Str} {v : α} {l : List (Str × α)} (h : alGet k l = some v) : k ∈ keys l :=
  (alGet_isSome_iff k l).1 (by simp [h])

theorem alGet_mem {k : Str} {v : α} {l : List (Str × α)} (h : alGet k l = some v) : (k, v) ∈ l := by
  induction l with
  | nil => simp [alGet] at h
  | cons x xs ih =>
    by_cases hk : x.1 = k
    · simp [alGet, hk] at h; simp [← hk, ← h]
    · simp [alGet, hk] at h; simp [ih h]

theorem alGet_of_mem_nodup {k : Str} {v : α} {l : List (Str × α)} (hn : (keys l).Nodup)
    (h : (k, v) ∈ l) : alGet k l = some v := by
  induction l with
  | nil => simp at h
  | cons x xs ih =>
    simp only [keys, List.map_cons, List.nodup_cons] at hn
    rcases List.mem_cons.1 h with rfl | h
    · simp [alGet]
    · have : x.1 ≠ k := fun e => hn.1 (e ▸ List.mem_map.2 ⟨(k, v), h, rfl⟩)
      simp only [alGet, this, if_false]
      exact ih hn.2 h

theorem all_iff_alGet (l : List (Str × α)) (hn : (keys l).Nodup) (P : Str → α → Prop) :
    (∀ e ∈ l, P e.1 e.2) ↔ ∀ k v, alGet k l = some v → P k v :=
  ⟨fun h k v hg => h (k, v) (alGet_mem hg), fun h e he => h e.1 e.2 (alGet_of_mem_nodup hn he)⟩

theorem alSet_cons (k : Str) (o : Option α) (x : Str × α) (xs : List (Str × α)) :
    alSet k o (x :: xs) = if x.1 = k then (match o with | none => alSet k none xs | some v => (k, v) :: xs)
      else x :: alSet k o xs := by
  cases o <;> by_cases h : x.1 = k <;> simp [alSet, alErase, alPut, h]

theorem alGet_alSet (k k' : Str) (o : Option α) (l : List (Str × α)) :
    alGet k' (alSet k o l) = if k = k' then o else alGet k' l := by
  induction l with
  | nil => cases o <;> simp [alSet, alErase, alPut, alGet]
  | cons x xs ih =>
    rw [alSet_cons]
    by_cases h : x.1 = k
    · subst h
      by_cases h' : x.1 = k' <;> cases o <;> simp_all [alGet]
    · have h2 : k ≠ x.1 := Ne.symm h
      by_cases h' : x.1 = k'
      · subst h'; simp [alGet, h, h2]
      · simp [alGet, h, h', ih]

theorem alGet_alSet_same (k : Str) (o : Option α) (l : List (Str × α)) : alGet k (alSet k o l) = o := by
  simp [alGet_alSet]

theorem alGet_alSet_other {k k' : Str} (o : Option α) (l : List (Str × α)) (h : k' ≠ k) :
    alGet k' (alSet k o l) = alGet k' l := by
  simp [alGet_alSet, Ne.symm h]

theorem alGet_alPut (k k' : Str) (v : α) (l : List (Str × α)) :
    alGet k' (alPut k v l) = if k = k' then some v else alGet k' l :=
  alGet_alSet k k' (some v) l

theorem alGet_alErase (k k' : Str) (l : List (Str × α)) :
    alGet k' (alErase k l) = if k = k' then none else alGet k' l :=
  alGet_alSet k k' none l

theorem mem_keys_alPut (x k : Str) (v : α) (l : List (Str × α)) :
    x ∈ keys (alPut k v l) ↔ x = k ∨ x ∈ keys l := by
  rw [← alGet_isSome_iff, ← alGet_isSome_iff, alGet_alPut]
  by_cases h : x = k
  · simp [h]
  · simp [h, Ne.symm h]

theorem mem_keys_alErase (x k : Str) (l : List (Str × α)) :
    x ∈ keys (alErase k l) ↔ x ≠ k ∧ x ∈ keys l := by
  rw [← alGet_isSome_iff, ← alGet_isSome_iff, alGet_alErase]
  by_cases h : x = k
  · simp [h]
  · simp [h, Ne.symm h]

theorem nodup_keys_alSet (k : Str) (o : Option α) (l : List (Str × α)) (h : (keys l).Nodup) :
    (keys (alSet k o l)).Nodup := by
  cases o with
  | none => exact h.sublist (List.filter_sublist.map _)
  | some v =>
    induction l with
    | nil => simp [alSet, alPut, keys]
    | cons y ys ih =>
      simp only [keys, List.map_cons, List.nodup_cons] at h
      by_cases h2 : y.1 = k
      · simp only [alSet, alPut, h2, if_true, keys, List.map_cons, List.nodup_cons]
        exact h2 ▸ h
      · simp only [alSet, alPut, h2, if_false, keys, List.map_cons, List.nodup_cons]
        exact ⟨fun hm => ((mem_keys_alPut ..).1 hm).elim h2 h.1, ih h.2⟩

theorem nodup_keys_alPut (k : Str) (v : α) (l : List (Str × α)) (h : (keys l).Nodup) :
    (keys (alPut k v l)).Nodup :=
  nodup_keys_alSet k (some v) l h

theorem nodup_keys_alErase (k : Str) (l : List (Str × α)) (h : (keys l).Nodup) : (keys (alErase k l)).Nodup :=
  nodup_keys_alSet k none l h

theorem alGet_map {β : Type} (f : Str → α → β) (k : Str) (l : List (Str × α)) :
    alGet k (l.map fun e => (e.1, f e.1 e.2)) = (alGet k l).map (f k) := by
  induction l with
  | nil => simp [alGet]
  | cons x xs ih =>
    by_cases h : x.1 = k
    · subst h; simp [alGet]
    · simp [alGet, h, ih]

theorem keys_map {β : Type} (f : Str → α → β) (l : List (Str × α)) :
    keys (l.map fun e => (e.1, f e.1 e.2)) = keys l := by
  simp [keys, List.map_map, Function.comp_def]

end AL

section Dedup
variable {α : Type} [DecidableEq α]

theorem mem_dedup (x : α) (l : List α) : x ∈ dedup l ↔ x ∈ l := by
  induction l with
  | nil => simp [dedup]
  | cons y ys ih =>
    simp only [dedup, List.mem_cons, List.mem_filter, decide_eq_true_eq, ih]
    by_cases h : x = y <;> simp [h]

theorem nodup_dedup (l : List α) : (dedup l).Nodup := by
  induction l with
  | nil => simp [dedup]
  | cons y ys ih =>
    simp only [dedup, List.nodup_cons, List.mem_filter, decide_eq_true_eq]
    exact ⟨fun h => h.2 rfl, List.Nodup.sublist List.filter_sublist ih⟩

theorem dedup_eq_nil (l : List α) : dedup l = [] ↔ l = [] := by
  cases l <;> simp [dedup]

end Dedup

section Compare
variable {ev : List (Str × Evaluated)} {inst : List (Str × Installed)} {n : Str} {u : Update}

theorem compareOne_eq (ev : List (Str × Evaluated)) (inst : List (Str × Installed)) (n : Str) :
    compareOne ev inst n = match alGet n ev with
      | some ⟨e, some (a, b)⟩ =>
        some (.update n e ⟨(alGet n inst).map (·.v4), a⟩ ⟨(alGet n inst).map (·.v6), b⟩)
      | some ⟨_, none⟩ => none
      | none => (alGet n inst).map fun _ => .delete n := by
  unfold compareOne
  split <;> simp [*]

theorem compareOne_name (h : compareOne ev inst n = some u) : u.name = n := by
  unfold compareOne at h
  split at h <;> simp at h <;> (subst h; rfl)

theorem mem_keys_of_compareOne (h : compareOne ev inst n = some u) : n ∈ keys ev ∨ n ∈ keys inst := by
  rw [compareOne_eq] at h
  rw [← alGet_isSome_iff, ← alGet_isSome_iff]
  cases hev : alGet n ev with
  | some v => simp
  | none => rw [hev] at h; cases hi : alGet n inst <;> simp [hi] at h ⊢

theorem mem_compare : u ∈ compare ev inst ↔ compareOne ev inst u.name = some u := by
  unfold compare
  simp only [List.mem_filterMap, mem_dedup, List.mem_append]
  constructor
  · rintro ⟨n, -, h⟩
    cases compareOne_name h
    exact h
  · exact fun h => ⟨u.name, mem_keys_of_compareOne h, h⟩

/-- what an emitted update says about the evaluation of its policy -/
def FromEval (ev : List (Str × Evaluated)) : Update → Prop
  | .delete n => alGet n ev = none
  | .update n e d4 d6 => alGet n ev = some ⟨e, some (d4.new, d6.new)⟩

theorem compareOne_fromEval (h : compareOne ev inst n = some u) : FromEval ev u := by
  rw [compareOne_eq] at h
  split at h
  · cases h; assumption
  · cases h
  · cases hi : alGet n inst with
    | none => simp [hi] at h
    | some i => simp only [hi, Option.map_some, Option.some.injEq] at h; subst h; assumption

theorem compare_fromEval (h : u ∈ compare ev inst) : FromEval ev u :=
  compareOne_fromEval (mem_compare.1 h)

end Compare

theorem compare_names_nodup (ev : List (Str × Evaluated)) (inst : List (Str × Installed)) :
    ((compare ev inst).map Update.name).Nodup := by
  unfold compare
  rw [map_filterMap_of_inv _ _ fun n u h => compareOne_name h]
  exact List.Nodup.sublist List.filter_sublist (nodup_dedup _)

theorem render_name (c : Cfg) (u : Update) : (render c u).name = u.name := by
  cases u <;> rfl

theorem map_render_names (c : Cfg) (us : List Update) :
    (us.map (render c)).map PStmt.name = us.map Update.name := by
  simp [List.map_map, Function.comp_def, render_name]

/-! ### the reference model writes through `alSet`: frame, unique keys -/

theorem applyTerm_eq_alSet {ts ts' : List (Str × JTerm)} {pt : PTerm} (h : applyTerm ts pt = .ok ts') :
    ∃ r, ts' = alSet pt.name r ts := by
  unfold applyTerm at h
  split at h
  · split at h
    · cases h
    · split at h
      · cases h
      · cases h; exact ⟨none, rfl⟩
  · split at h
    · cases h
    · cases h; exact ⟨some _, rfl⟩

theorem applyPatch_eq_alSet {cfg cfg' : JCfg} {p : PStmt} (h : applyPatch cfg p = .ok cfg') :
    ∃ r, cfg' = alSet p.name r cfg := by
  unfold applyPatch at h
  split at h
  · cases h
  · cases h; exact ⟨_, rfl⟩

theorem applyTerms_frame {pts : List PTerm} {ts ts' : List (Str × JTerm)} {k : Str}
    (h : applyTerms ts pts = .ok ts') (hk : k ∉ pts.map PTerm.name) : alGet k ts' = alGet k ts := by
  induction pts generalizing ts with
  | nil => cases h; rfl
  | cons pt rest ih =>
    simp only [List.map_cons, List.mem_cons, not_or] at hk
    simp only [applyTerms] at h
    split at h
    · cases h
    · rename_i ts1 h1
      obtain ⟨r, rfl⟩ := applyTerm_eq_alSet h1
      rw [ih h hk.2, alGet_alSet_other _ _ hk.1]

theorem applyTerms_nodup {pts : List PTerm} {ts ts' : List (Str × JTerm)}
    (h : applyTerms ts pts = .ok ts') (hn : (keys ts).Nodup) : (keys ts').Nodup := by
  induction pts generalizing ts with
  | nil => cases h; exact hn
  | cons pt rest ih =>
    simp only [applyTerms] at h
    split at h
    · cases h
    · rename_i ts1 h1
      obtain ⟨r, rfl⟩ := applyTerm_eq_alSet h1
      exact ih h (nodup_keys_alSet _ _ _ hn)

theorem applyAll_singleton (cfg : JCfg) (p : PStmt) : applyAll cfg [p] = applyPatch cfg p := by
  simp only [applyAll]
  cases applyPatch cfg p <;> rfl

theorem applyAll_frame {ps : List PStmt} {cfg cfg' : JCfg} {n : Str}
    (h : applyAll cfg ps = .ok cfg') (hn : n ∉ ps.map PStmt.name) : alGet n cfg' = alGet n cfg := by
  induction ps generalizing cfg with
  | nil => cases h; rfl
  | cons p rest ih =>
    simp only [List.map_cons, List.mem_cons, not_or] at hn
    simp only [applyAll] at h
    split at h
    · cases h
    · rename_i c1 h1
      obtain ⟨r, rfl⟩ := applyPatch_eq_alSet h1
      rw [ih h hn.2, alGet_alSet_other _ _ hn.1]

theorem applyAll_nodup {ps : List PStmt} {cfg cfg' : JCfg}
    (h : applyAll cfg ps = .ok cfg') (hn : (keys cfg).Nodup) : (keys cfg').Nodup := by
  induction ps generalizing cfg with
  | nil => cases h; exact hn
  | cons p rest ih =>
    simp only [applyAll] at h
    split at h
    · cases h
    · rename_i c1 h1
      obtain ⟨r, rfl⟩ := applyPatch_eq_alSet h1
      exact ih h (nodup_keys_alSet _ _ _ hn)

/-- The payloads of one run name pairwise distinct policies, so each acts on the statement as it
was before the run, in whatever order they are loaded. -/
theorem applyAll_distinct (ps : List PStmt) (cfg : JCfg) (hn : (ps.map PStmt.name).Nodup)
    (hok : ∀ p ∈ ps, ∃ r, applyStmt (alGet p.name cfg) p = .ok r) :
    ∃ cfg', applyAll cfg ps = .ok cfg' ∧
      ∀ p ∈ ps, applyStmt (alGet p.name cfg) p = .ok (alGet p.name cfg') := by
  induction ps generalizing cfg with
  | nil => exact ⟨cfg, rfl, by simp⟩
  | cons p rest ih =>
    simp only [List.map_cons, List.nodup_cons] at hn
    obtain ⟨r, hr⟩ := hok p (by simp)
    have hne : ∀ q ∈ rest, alGet q.name (alSet p.name r cfg) = alGet q.name cfg := fun q hq =>
      alGet_alSet_other _ _ fun e => hn.1 (e ▸ List.mem_map.2 ⟨q, hq, rfl⟩)
    obtain ⟨cfg', h1, h2⟩ := ih (alSet p.name r cfg) hn.2 fun q hq => by
      rw [hne q hq]; exact hok q (by simp [hq])
    refine ⟨cfg', by simp [applyAll, applyPatch, hr, h1], fun q hq => ?_⟩
    rcases List.mem_cons.1 hq with rfl | hq
    · rw [applyAll_frame h1 hn.1, alGet_alSet_same]; exact hr
    · rw [← hne q hq]; exact h2 q hq

/-! ### `Shape`: one family's `<term>`, then a whole update -/

theorem applyFilters_adds (fs adds : List Range) :
    ∃ fs', applyFilters fs (adds.map addF) = .ok fs' ∧ ∀ x, x ∈ fs' ↔ x ∈ fs ∨ x ∈ adds := by
  induction adds generalizing fs with
  | nil => exact ⟨fs, by simp [applyFilters]⟩
  | cons a as ih =>
    obtain ⟨fs', h1, h2⟩ := ih (if a ∈ fs then fs else fs ++ [a])
    refine ⟨fs', by simpa [applyFilters, addF] using h1, fun x => ?_⟩
    rw [h2]
    by_cases ha : a ∈ fs
    · by_cases hx : x = a <;> simp [ha, hx]
    · simp [ha, or_assoc]

theorem applyFilters_dels_adds (fs dels adds : List Range) (hd : dels.Nodup) (hsub : ∀ r ∈ dels, r ∈ fs) :
    ∃ fs', applyFilters fs (dels.map delF ++ adds.map addF) = .ok fs' ∧
      ∀ x, x ∈ fs' ↔ (x ∈ fs ∧ x ∉ dels) ∨ x ∈ adds := by
  induction dels generalizing fs with
  | nil => simpa using applyFilters_adds fs adds
  | cons d ds ih =>
    simp only [List.nodup_cons] at hd
    have hdm : d ∈ fs := hsub d (by simp)
    obtain ⟨fs', h1, h2⟩ := ih (fs.filter (fun x => decide (x ≠ d))) hd.2 (by
      intro r hr
      simp only [List.mem_filter, decide_eq_true_eq]
      exact ⟨hsub r (by simp [hr]), fun e => hd.1 (e ▸ hr)⟩)
    refine ⟨fs', by simpa [applyFilters, delF, hdm] using h1, fun x => ?_⟩
    simp [h2, and_assoc]

theorem mem_rdiff (x : Range) (a b : List Range) : x ∈ rdiff a b ↔ x ∈ a ∧ x ∉ b := by
  simp [rdiff]

theorem nodup_rdiff (a b : List Range) (h : a.Nodup) : (rdiff a b).Nodup :=
  List.Nodup.sublist List.filter_sublist h

theorem inet_ne_inet6 : inet ≠ inet6 := by decide

theorem fam_name_inj {f g : Fam} (h : f.name = g.name) : f = g := by
  cases f <;> cases g <;> first | rfl | exact absurd h (by decide)

/-- the term installed under the name of family `f` (`none`: there is none) holds exactly the ranges `s` -/
def Holds (f : Fam) (s : List Range) : Option JTerm → Prop
  | none => s = []
  | some t => t.family = some f.name ∧ t.accept = true ∧ t.filters ≠ [] ∧ ∀ x, x ∈ t.filters ↔ x ∈ s

/-- `Holds`, or the empty term that the pinned writer leaves for a family that is and stays empty (D9) -/
def After (c : Cfg) (f : Fam) (s : List Range) (r : Option JTerm) : Prop :=
  Holds f s r ∨ (c.skipEmptyFamily = false ∧ s = [] ∧ r = some emptyTerm)

theorem after_fixed {f : Fam} {s : List Range} {r : Option JTerm} (h : After .fixed f s r) : Holds f s r :=
  h.resolve_right (by simp [Cfg.fixed])

theorem holds_nil {f : Fam} {r : Option JTerm} (h : Holds f [] r) : r = none := by
  cases r with
  | none => rfl
  | some t => exact absurd rfl (ne_nil_of_mem_iff (fun x => (h.2.2.2 x).symm) h.2.2.1)

theorem holds_filters {f : Fam} {s : List Range} {r : Option JTerm} (h : Holds f s r) (x : Range) :
    x ∈ (r.getD emptyTerm).filters ↔ x ∈ s := by
  cases r with
  | none => cases h; simp [emptyTerm]
  | some t => exact h.2.2.2 x

theorem renderDiff_none (c : Cfg) (f : Fam) (new : List Range) :
    renderDiff c f ⟨none, new⟩ = renderDiff c f ⟨some [], new⟩ := by
  have h1 : rdiff new [] = new := List.filter_eq_self.2 (by simp)
  have h2 : rdiff [] new = [] := rfl
  simp [renderDiff, oldNonEmpty, h1, h2]

theorem renderDiff_name {c : Cfg} {f : Fam} {d : Diff} {pt : PTerm} (h : pt ∈ renderDiff c f d) :
    pt.name = f.name := by
  unfold renderDiff at h
  split at h
  · cases h
  · cases List.mem_singleton.1 h; rfl

theorem applyTerms_renderDiff_frame {c : Cfg} {f : Fam} {d : Diff} {ts ts' : List (Str × JTerm)} {k : Str}
    (h : applyTerms ts (renderDiff c f d) = .ok ts') (hk : k ≠ f.name) : alGet k ts' = alGet k ts :=
  applyTerms_frame h fun hm => by
    obtain ⟨pt, hpt, rfl⟩ := List.mem_map.1 hm
    exact hk (renderDiff_name hpt)

theorem applyTerms_renderDiff (c : Cfg) (f : Fam) (ts : List (Str × JTerm)) {o : List Range} (new : List Range)
    (ho : o.Nodup) (h : Holds f o (alGet f.name ts)) :
    ∃ ts', applyTerms ts (renderDiff c f ⟨some o, new⟩) = .ok ts' ∧ After c f new (alGet f.name ts') := by
  by_cases hn : new = []
  · subst hn
    by_cases hov : o = []
    · -- empty before and after: nothing (repaired) or an empty term (pinned)
      subst hov
      have habs := holds_nil h
      cases hs : c.skipEmptyFamily with
      | true => exact ⟨ts, by simp [renderDiff, hs, oldNonEmpty, applyTerms], Or.inl (habs ▸ rfl)⟩
      | false =>
        refine ⟨alSet f.name (some emptyTerm) ts, ?_, Or.inr ⟨hs, rfl, alGet_alSet_same _ _ _⟩⟩
        simp [renderDiff, hs, oldNonEmpty, applyTerms, applyTerm, applyTermBody, habs, emptyTerm, alSet]
    · -- emptied: the whole term is deleted; it exists because `o` is non-empty
      have he : oldNonEmpty ⟨some o, []⟩ = true := by simp [oldNonEmpty, hov]
      cases hg : alGet f.name ts with
      | none => rw [hg] at h; exact absurd h hov
      | some t =>
        refine ⟨alSet f.name none ts, ?_, Or.inl (by rw [alGet_alSet_same]; rfl)⟩
        simp [renderDiff, he, applyTerms, applyTerm, hg, alSet]
  · -- non-empty afterwards: deletes and adds merged into the existing or a fresh term
    have hne : new.isEmpty = false := by simpa using hn
    obtain ⟨fs', h1, h3⟩ := applyFilters_dels_adds ((alGet f.name ts).getD emptyTerm).filters
      (rdiff o new) (rdiff new o) (nodup_rdiff _ _ ho)
      (fun r hr => (holds_filters h r).2 ((mem_rdiff r _ _).1 hr).1)
    have hfs : ∀ x, x ∈ fs' ↔ x ∈ new := fun x => by
      rw [h3, mem_rdiff, mem_rdiff, holds_filters h]
      by_cases hx : x ∈ new <;> by_cases hy : x ∈ o <;> simp [hx, hy]
    refine ⟨alSet f.name (some ⟨some f.name, fs', true⟩) ts, ?_,
      Or.inl (by rw [alGet_alSet_same]; exact ⟨rfl, rfl, ne_nil_of_mem_iff hfs hn, hfs⟩)⟩
    simp [renderDiff, hne, applyTerms, applyTerm, applyTermBody, h1, alSet]

def pick {α : Type} (f : Fam) (a b : α) : α :=
  match f with
  | .v4 => a
  | .v6 => b

/-- The invariant of the terms of a policy the agent wrote for the range sets `a` (IPv4) and `b`
(IPv6): at most one term per family, named after it, holding that family's set. -/
structure Shape (c : Cfg) (a b : List Range) (ts : List (Str × JTerm)) : Prop where
  nodup : (keys ts).Nodup
  names : ∀ k ∈ keys ts, ∃ f : Fam, k = f.name
  fam : ∀ f : Fam, After c f (pick f a b) (alGet f.name ts)

theorem shape_get {c : Cfg} {a b : List Range} {ts : List (Str × JTerm)} (h : Shape c a b ts) {k : Str}
    {t : JTerm} (hg : alGet k ts = some t) : ∃ f : Fam, k = f.name ∧ After c f (pick f a b) (some t) := by
  obtain ⟨f, rfl⟩ := h.names k (mem_keys_of_alGet hg)
  exact ⟨f, rfl, hg ▸ h.fam f⟩

theorem shape_nil : Shape .fixed [] [] [] :=
  ⟨by simp [keys], by simp [keys], fun f => Or.inl (by cases f <;> rfl)⟩

theorem applyTerms_append (ts : List (Str × JTerm)) (a b : List PTerm) :
    applyTerms ts (a ++ b) = match applyTerms ts a with
      | .error e => .error e
      | .ok ts1 => applyTerms ts1 b := by
  induction a generalizing ts with
  | nil => simp [applyTerms]
  | cons x xs ih =>
    simp only [List.cons_append, applyTerms]
    cases applyTerm ts x with
    | error e => rfl
    | ok ts' => exact ih ts'

/-- Before: what the agent's reader accepted (`o4`, `o6`), so never the empty term of D9, whence `.fixed`; after: what
writer `c` leaves for `a`, `b`. -/
theorem applyTerms_update (c : Cfg) {ts : List (Str × JTerm)} {o4 o6 : List Range}
    (h : Shape .fixed o4 o6 ts) (n4 : o4.Nodup) (n6 : o6.Nodup) (a b : List Range) :
    ∃ ts', applyTerms ts (renderDiff c .v4 ⟨some o4, a⟩ ++ renderDiff c .v6 ⟨some o6, b⟩) = .ok ts' ∧
      Shape c a b ts' := by
  obtain ⟨ts1, a1, a2⟩ := applyTerms_renderDiff c .v4 ts a n4 (after_fixed (h.fam .v4))
  have f1 : ∀ k, k ≠ inet → alGet k ts1 = alGet k ts := fun _ => applyTerms_renderDiff_frame a1
  obtain ⟨ts2, b1, b2⟩ := applyTerms_renderDiff c .v6 ts1 b n6
    (by rw [show Fam.v6.name = inet6 from rfl, f1 _ inet_ne_inet6.symm]; exact after_fixed (h.fam .v6))
  have f2 : ∀ k, k ≠ inet6 → alGet k ts2 = alGet k ts1 := fun _ => applyTerms_renderDiff_frame b1
  refine ⟨ts2, by rw [applyTerms_append, a1]; exact b1,
    applyTerms_nodup b1 (applyTerms_nodup a1 h.nodup), fun k hk => ?_, fun f => ?_⟩
  · by_cases k4 : k = inet
    · exact ⟨.v4, k4⟩
    · by_cases k6 : k = inet6
      · exact ⟨.v6, k6⟩
      · rw [← alGet_isSome_iff, f2 k k6, f1 k k4, alGet_isSome_iff] at hk
        exact h.names k hk
  · cases f
    · rw [show Fam.v4.name = inet from rfl, f2 _ inet_ne_inet6]; exact a2
    · exact b2

/-- what the update `u`, loaded onto the policy it was computed for, leaves in its place -/
def Leaves (c : Cfg) : Update → Option JPolicy → Prop
  | .delete _, r => r = none
  | .update _ _ d4 d6, r => ∃ p, r = some p ∧ p.thenReject = true ∧ Shape c d4.new d6.new p.terms

theorem applyStmt_update (c : Cfg) (n e : Str) (cur : Option JPolicy) {o4 o6 : List Range}
    (h : Shape .fixed o4 o6 (cur.getD emptyPolicy).terms) (n4 : o4.Nodup) (n6 : o6.Nodup) (a b : List Range) :
    ∃ r, applyStmt cur (render c (.update n e ⟨some o4, a⟩ ⟨some o6, b⟩)) = .ok r ∧
      Leaves c (.update n e ⟨some o4, a⟩ ⟨some o6, b⟩) r := by
  obtain ⟨ts', h1, h2⟩ := applyTerms_update c h n4 n6 a b
  exact ⟨some ⟨some (commentPrefix ++ e), ts', true⟩, by simp [applyStmt, render, h1], _, rfl, rfl, h2⟩

theorem applyStmt_delete (c : Cfg) (n : Str) (p : JPolicy) :
    applyStmt (some p) (render c (.delete n)) = .ok none := by
  simp [applyStmt, render]

/-! ### agent states and their read-back -/

def WfTerm (k : Str) (t : JTerm) : Prop :=
  ∃ f : Fam, k = f.name ∧ t.family = some f.name ∧ t.accept = true ∧ t.filters ≠ [] ∧
    ∀ x ∈ t.filters, Range.valid f x = true

def WfPolicy (p : JPolicy) : Prop :=
  p.thenReject = true ∧ (keys p.terms).Nodup ∧ ∀ k t, alGet k p.terms = some t → WfTerm k t

/-- Prop form of `agentState`; every state the repaired agent produces is one (`reachable_agentState`, `Thm/C01.lean`) -/
def AgentState (cfg : JCfg) : Prop :=
  (keys cfg).Nodup ∧ ∀ n p, alGet n cfg = some p → WfPolicy p

theorem wfTerm_iff (k : Str) (t : JTerm) : wfTerm k t = true ↔ WfTerm k t := by
  unfold wfTerm WfTerm
  simp only [Bool.or_eq_true, Bool.and_eq_true, decide_eq_true_eq, Bool.not_eq_true',
    List.isEmpty_eq_false_iff, List.all_eq_true]
  constructor
  · rintro (⟨⟨⟨⟨a, b⟩, c⟩, d⟩, e⟩ | ⟨⟨⟨⟨a, b⟩, c⟩, d⟩, e⟩)
    · exact ⟨.v4, a, b, c, d, e⟩
    · exact ⟨.v6, a, b, c, d, e⟩
  · rintro ⟨f, a, b, c, d, e⟩
    cases f
    · exact Or.inl ⟨⟨⟨⟨a, b⟩, c⟩, d⟩, e⟩
    · exact Or.inr ⟨⟨⟨⟨a, b⟩, c⟩, d⟩, e⟩

theorem wfPolicy_iff (p : JPolicy) : wfPolicy p = true ↔ WfPolicy p := by
  unfold wfPolicy WfPolicy
  simp only [Bool.and_eq_true, decide_eq_true_eq, List.all_eq_true, wfTerm_iff]
  constructor
  · rintro ⟨⟨a, b⟩, c⟩; exact ⟨a, b, (all_iff_alGet _ b _).1 c⟩
  · rintro ⟨a, b, c⟩; exact ⟨⟨a, b⟩, (all_iff_alGet _ b _).2 c⟩

theorem agentState_iff (cfg : JCfg) : agentState cfg = true ↔ AgentState cfg := by
  unfold agentState AgentState
  simp only [Bool.and_eq_true, decide_eq_true_eq, List.all_eq_true, wfPolicy_iff]
  constructor
  · rintro ⟨a, b⟩; exact ⟨a, (all_iff_alGet _ a (fun _ p => WfPolicy p)).1 b⟩
  · rintro ⟨a, b⟩; exact ⟨a, (all_iff_alGet _ a (fun _ p => WfPolicy p)).2 b⟩

instance (cfg : JCfg) : Decidable (AgentState cfg) := decidable_of_iff _ (agentState_iff cfg)

theorem wfTerm_fam {f : Fam} {t : JTerm} (h : WfTerm f.name t) :
    t.family = some f.name ∧ t.accept = true ∧ t.filters ≠ [] ∧ ∀ x ∈ t.filters, Range.valid f x = true := by
  obtain ⟨g, hk, h2⟩ := h
  cases fam_name_inj hk
  exact h2

theorem readRange_valid {f : Fam} {r : Range} (h : Range.valid f r = true) : readRange f r = .ok r := by
  unfold Range.valid at h
  simp only [Bool.and_eq_true, beq_iff_eq, decide_eq_true_eq] at h
  obtain ⟨⟨⟨⟨⟨h1, h2⟩, h3⟩, h4⟩, h5⟩, h6⟩ := h
  unfold readRange
  have e1 : (r.v6 != f.isV6) = false := by simp [h1]
  have e2 : (decide (f.bits < r.len) || decide (f.bits < r.lo) || decide (f.bits < r.hi)
      || decide (2 ^ f.bits ≤ r.addr)) = false := by
    simp only [Bool.or_eq_false_iff, decide_eq_false_iff_not, Nat.not_lt, Nat.not_le]
    exact ⟨⟨⟨Nat.le_trans h2 (Nat.le_trans h3 h4), Nat.le_trans h3 h4⟩, h4⟩, h5⟩
  have e3 : max r.len r.lo = r.lo := Nat.max_eq_right h2
  simp only [e1, e2, e3, Bool.false_eq_true, if_false, h3, if_true, h6, Nat.sub_zero]

theorem readRanges_valid {f : Fam} (rs : List Range) (h : ∀ x ∈ rs, Range.valid f x = true) :
    readRanges f rs = .ok rs := by
  induction rs with
  | nil => rfl
  | cons r rs ih =>
    simp [readRanges, readRange_valid (h r (by simp)), ih (fun x hx => h x (by simp [hx]))]

theorem readTerm_wf {f : Fam} {t : JTerm} (h : WfTerm f.name t) :
    readTerm f.name t = .ok (f, dedup t.filters) := by
  obtain ⟨h1, h2, _, h4⟩ := wfTerm_fam h
  unfold readTerm
  have t4 : trimB inet = inet := by decide
  have t6 : trimB inet6 = inet6 := by decide
  cases f
  · simp [h1, h2, Fam.name, readRanges_valid _ h4, t4]
  · have : inet6 ≠ inet := inet_ne_inet6.symm
    simp [h1, h2, Fam.name, readRanges_valid _ h4, this, t6]

theorem readTerms_wf (ts : List (Str × JTerm)) (a b : Option (List Range)) (hn : (keys ts).Nodup)
    (hw : ∀ e ∈ ts, WfTerm e.1 e.2) (ha : a.isSome → inet ∉ keys ts) (hb : b.isSome → inet6 ∉ keys ts) :
    readTerms ts a b = .ok (a.or ((alGet inet ts).map fun t => dedup t.filters),
                            b.or ((alGet inet6 ts).map fun t => dedup t.filters)) := by
  induction ts generalizing a b with
  | nil => simp [readTerms, alGet]
  | cons e rest ih =>
    obtain ⟨k, t⟩ := e
    simp only [keys, List.map_cons, List.nodup_cons, List.mem_cons, not_or] at hn ha hb
    have hwt : WfTerm k t := hw (k, t) (by simp)
    have hw' := fun e he => hw e (List.mem_cons_of_mem _ he)
    obtain ⟨f, rfl, _⟩ := id hwt
    -- the slot of this term's family is free: a filled one excludes the family's name from the keys (`ha`, `hb`)
    cases f
    · cases a with
      | some x => exact absurd rfl (ha rfl).1
      | none =>
        simp only [readTerms, readTerm_wf hwt]
        rw [ih _ _ hn.2 hw' (fun _ => hn.1) fun h => (hb h).2]
        simp [alGet, Fam.name, inet_ne_inet6]
    · cases b with
      | some x => exact absurd rfl (hb rfl).1
      | none =>
        simp only [readTerms, readTerm_wf hwt]
        rw [ih _ _ hn.2 hw' (fun h => (ha h).2) fun _ => hn.1]
        simp [alGet, Fam.name, inet_ne_inet6.symm]

/-- what the agent's reader returns for a well-formed policy (`readPolicy_wf`) -/
def viewP (p : JPolicy) : Installed := ⟨dedup (filtersOf .v4 p), dedup (filtersOf .v6 p)⟩

def viewCfg (cfg : JCfg) : List (Str × Installed) := cfg.map fun e => (e.1, viewP e.2)

theorem readPolicy_wf (n : Str) (p : JPolicy) (h : WfPolicy p) :
    readPolicy .fixed n p = .ok (some (n, viewP p)) := by
  obtain ⟨h1, h2, h3⟩ := h
  unfold readPolicy
  rw [readTerms_wf p.terms none none h2 ((all_iff_alGet _ h2 _).2 h3) nofun nofun]
  simp only [h1, if_true, nameOf, Cfg.fixed, Option.none_or]
  unfold viewP filtersOf
  simp only [Fam.name]
  cases alGet inet p.terms <;> cases alGet inet6 p.terms <;> simp [dedup]

theorem readAll_wf (cfg : JCfg) (h : ∀ e ∈ cfg, WfPolicy e.2) : readAll .fixed cfg = .ok (viewCfg cfg) := by
  induction cfg with
  | nil => rfl
  | cons e rest ih =>
    obtain ⟨n, p⟩ := e
    simp [readAll, readPolicy_wf n p (h (n, p) (by simp)), ih (fun e he => h e (by simp [he])), viewCfg]

theorem keys_viewCfg (cfg : JCfg) : keys (viewCfg cfg) = keys cfg :=
  keys_map (fun _ p => viewP p) cfg

theorem alGet_viewCfg (n : Str) (cfg : JCfg) : alGet n (viewCfg cfg) = (alGet n cfg).map viewP :=
  alGet_map (fun _ p => viewP p) n cfg

theorem readInstalled_agentState {cfg : JCfg} (h : AgentState cfg) :
    readInstalled .fixed cfg = .ok (viewCfg cfg) := by
  unfold readInstalled
  rw [readAll_wf cfg ((all_iff_alGet _ h.1 (fun _ p => WfPolicy p)).2 h.2)]
  simp [keys_viewCfg, h.1]

theorem readInstalled_congr (c : Cfg) (h : c.unescapeNames = true) (cfg : JCfg) :
    readInstalled c cfg = readInstalled .fixed cfg := by
  have hp : ∀ n p, readPolicy c n p = readPolicy .fixed n p := by
    intro n p; simp [readPolicy, nameOf, h, Cfg.fixed]
  have ha : readAll c cfg = readAll .fixed cfg := by
    induction cfg with
    | nil => rfl
    | cons e rest ih => obtain ⟨n, p⟩ := e; simp [readAll, hp, ih]
  simp [readInstalled, ha]

/-! ### the updates of a run, loaded onto an agent state -/

theorem shape_of_wf {p : JPolicy} (h : WfPolicy p) :
    Shape .fixed (dedup (filtersOf .v4 p)) (dedup (filtersOf .v6 p)) p.terms := by
  refine ⟨h.2.1, fun k hk => ?_, fun f => Or.inl ?_⟩
  · obtain ⟨t, ht⟩ := Option.isSome_iff_exists.1 ((alGet_isSome_iff k _).2 hk)
    obtain ⟨f, hf, _⟩ := h.2.2 k t ht
    exact ⟨f, hf⟩
  · rw [show pick f (dedup (filtersOf .v4 p)) (dedup (filtersOf .v6 p)) = dedup (filtersOf f p) by cases f <;> rfl]
    unfold filtersOf
    cases hg : alGet f.name p.terms with
    | none => rfl
    | some t =>
      obtain ⟨h1, h2, h3, _⟩ := wfTerm_fam (h.2.2 _ _ hg)
      exact ⟨h1, h2, h3, fun x => (mem_dedup x _).symm⟩

theorem render_update_old (c : Cfg) (n e : Str) (o4 o6 : Option (List Range)) (a b : List Range) :
    render c (.update n e ⟨o4, a⟩ ⟨o6, b⟩) = render c (.update n e ⟨some (o4.getD []), a⟩ ⟨some (o6.getD []), b⟩) := by
  cases o4 <;> cases o6 <;> simp [render, renderDiff_none]

theorem compareOne_applies (c : Cfg) {cfg : JCfg} (hs : AgentState cfg) {ev : List (Str × Evaluated)}
    {n : Str} {u : Update} (h : compareOne ev (viewCfg cfg) n = some u) :
    ∃ r, applyStmt (alGet n cfg) (render c u) = .ok r ∧ Leaves c u r := by
  rw [compareOne_eq, alGet_viewCfg] at h
  split at h
  · rename_i e a b _
    cases h
    rw [render_update_old]
    cases hg : alGet n cfg with
    | none => exact applyStmt_update c n e none shape_nil .nil .nil a b
    | some p =>
      exact applyStmt_update c n e (some p) (shape_of_wf (hs.2 n p hg)) (nodup_dedup _) (nodup_dedup _) a b
  · cases h
  · cases hg : alGet n cfg with
    | none => simp [hg] at h
    | some p =>
      simp only [hg, Option.map_some, Option.some.injEq] at h
      subst h
      exact ⟨none, applyStmt_delete c n p, rfl⟩

/-- `us` is any selection of the emitted updates in any order: C01 takes a permutation of all of
them, C02 every prefix of one. -/
theorem applyUpdates (c : Cfg) {cfg : JCfg} (hs : AgentState cfg) (ev : List (Str × Evaluated))
    (us : List Update) (hn : (us.map Update.name).Nodup)
    (hsub : ∀ u ∈ us, u ∈ compare ev (viewCfg cfg)) :
    ∃ cfg', applyAll cfg (us.map (render c)) = .ok cfg' ∧ (keys cfg').Nodup ∧
      (∀ u ∈ us, Leaves c u (alGet u.name cfg')) ∧
      ∀ n, n ∉ us.map Update.name → alGet n cfg' = alGet n cfg := by
  have hok : ∀ u ∈ us, ∃ r, applyStmt (alGet u.name cfg) (render c u) = .ok r ∧ Leaves c u r := fun u hu =>
    compareOne_applies c hs (mem_compare.1 (hsub u hu))
  obtain ⟨cfg', h1, h2⟩ := applyAll_distinct (us.map (render c)) cfg (by rw [map_render_names]; exact hn)
    (fun p hp => by
      obtain ⟨u, hu, rfl⟩ := List.mem_map.1 hp
      obtain ⟨r, hr, _⟩ := hok u hu
      exact ⟨r, by rw [render_name]; exact hr⟩)
  refine ⟨cfg', h1, applyAll_nodup h1 hs.1, fun u hu => ?_,
    fun n hn' => applyAll_frame h1 (by rwa [map_render_names])⟩
  obtain ⟨r, hr, hl⟩ := hok u hu
  have := h2 _ (List.mem_map.2 ⟨u, hu, rfl⟩)
  rw [render_name, hr] at this
  cases this
  exact hl

theorem run_eq {cfg : JCfg} (hs : AgentState cfg) (ev : List (Str × Evaluated)) :
    run .fixed cfg ev = applyAll cfg ((compare ev (viewCfg cfg)).map (render .fixed)) := by
  simp [run, plan, readInstalled_agentState hs]

/-! ### what the installed policy accepts -/

/-- the evaluated ranges satisfy the type invariant of `PrefixRange<Ipv4>` / `PrefixRange<Ipv6>` -/
def EvValid (ev : List (Str × Evaluated)) : Prop :=
  ∀ n e a b, alGet n ev = some ⟨e, some (a, b)⟩ →
    (∀ x ∈ a, Range.valid .v4 x = true) ∧ (∀ x ∈ b, Range.valid .v6 x = true)

/-- policy `p` is a well-formed agent policy whose per-family route-filter sets are `a` and `b` -/
def Installs (p : JPolicy) (a b : List Range) : Prop :=
  WfPolicy p ∧ (∀ x, x ∈ filtersOf .v4 p ↔ x ∈ a) ∧ (∀ x, x ∈ filtersOf .v6 p ↔ x ∈ b)

theorem filtersOf_eq (f : Fam) (p : JPolicy) :
    filtersOf f p = ((alGet f.name p.terms).getD emptyTerm).filters := by
  unfold filtersOf; cases alGet f.name p.terms <;> rfl

theorem installs_of_shape {p : JPolicy} {a b : List Range} (h1 : p.thenReject = true)
    (h : Shape .fixed a b p.terms) (hv4 : ∀ x ∈ a, Range.valid .v4 x = true)
    (hv6 : ∀ x ∈ b, Range.valid .v6 x = true) : Installs p a b := by
  have hf := fun f => after_fixed (h.fam f)
  refine ⟨⟨h1, h.nodup, fun k t hg => ?_⟩, fun x => by rw [filtersOf_eq]; exact holds_filters (hf .v4) x,
    fun x => by rw [filtersOf_eq]; exact holds_filters (hf .v6) x⟩
  obtain ⟨f, rfl, ht⟩ := shape_get h hg
  replace ht := after_fixed ht
  exact ⟨f, rfl, ht.1, ht.2.1, ht.2.2.1, fun x hx => by
    cases f
    · exact hv4 x ((ht.2.2.2 x).1 hx)
    · exact hv6 x ((ht.2.2.2 x).1 hx)⟩

theorem seteq_iff (a b : List Range) : seteq a b = true ↔ ∀ x, x ∈ a ↔ x ∈ b := by
  simp only [seteq, Bool.and_eq_true, List.all_eq_true, decide_eq_true_eq, iff_def (a := _ ∈ a), forall_and]

theorem mem_acceptSet (f : Fam) (p : JPolicy) (x : Range) :
    x ∈ acceptSet f p ↔ ∃ kt ∈ p.terms, kt.2.accept = true ∧ kt.2.family = some f.name ∧ x ∈ kt.2.filters := by
  simp only [acceptSet, List.mem_flatMap]
  refine exists_congr fun kt => and_congr_right fun _ => ?_
  by_cases ha : kt.2.accept = true <;> by_cases hf : kt.2.family = some f.name <;> simp [ha, hf]

/-- an accepting term is not the empty term of D9, so it holds the set of the family it is named after -/
theorem acceptSet_shape {c : Cfg} {p : JPolicy} {a b : List Range} (h : Shape c a b p.terms) (f : Fam) :
    ∀ x ∈ acceptSet f p, x ∈ pick f a b := by
  intro x hx
  obtain ⟨⟨k, t⟩, hkt, hacc, hfam, hxf⟩ := (mem_acceptSet _ _ _).1 hx
  obtain ⟨g, rfl, ht | ⟨_, _, ht⟩⟩ := shape_get h (alGet_of_mem_nodup h.nodup hkt)
  · cases fam_name_inj (Option.some.inj (ht.1.symm.trans hfam))
    exact (ht.2.2.2 x).1 hxf
  · cases ht; cases hacc

theorem restricted_shape {c : Cfg} {p : JPolicy} {a b : List Range} (h : Shape c a b p.terms) :
    restricted p = true := by
  unfold restricted
  simp only [List.all_eq_true]
  intro ⟨k, t⟩ hkt
  obtain ⟨g, rfl, ht | ⟨_, _, ht⟩⟩ := shape_get h (alGet_of_mem_nodup h.nodup hkt)
  · cases g <;> simp [ht.1, ht.2.1, Fam.name, ht.2.2.1]
  · cases ht; simp [emptyTerm]

theorem safeFor_of_shape {c : Cfg} {p : JPolicy} {a b : List Range} (h1 : p.thenReject = true)
    (h : Shape c a b p.terms) : safeFor p a b = true := by
  simp only [safeFor, Bool.and_eq_true, h1, restricted_shape h, List.all_eq_true, decide_eq_true_eq, and_true,
    true_and]
  exact ⟨acceptSet_shape h .v4, acceptSet_shape h .v6⟩

theorem acceptSet_wf {p : JPolicy} (h : WfPolicy p) (f : Fam) (x : Range) :
    x ∈ acceptSet f p ↔ x ∈ filtersOf f p := by
  constructor
  · intro hx
    have := acceptSet_shape (shape_of_wf h) f x hx
    cases f <;> exact (mem_dedup x _).1 this
  · intro hx
    unfold filtersOf at hx
    cases hg : alGet f.name p.terms with
    | none => simp [hg] at hx
    | some t =>
      simp only [hg] at hx
      obtain ⟨h1, h2, _, _⟩ := wfTerm_fam (h.2.2 _ _ hg)
      exact (mem_acceptSet _ _ _).2 ⟨(f.name, t), alGet_mem hg, h2, h1, hx⟩

theorem restricted_wf {p : JPolicy} (h : WfPolicy p) : restricted p = true :=
  restricted_shape (shape_of_wf h)

theorem convergedTo_of_installs {p : JPolicy} {a b : List Range} (h : Installs p a b) :
    convergedTo p a b = true := by
  unfold convergedTo
  simp only [Bool.and_eq_true, restricted_wf h.1, seteq_iff, h.1.1, and_true, true_and]
  exact ⟨fun x => (acceptSet_wf h.1 .v4 x).trans (h.2.1 x), fun x => (acceptSet_wf h.1 .v6 x).trans (h.2.2 x)⟩

/-- the family of a route as a `Fam`, which is what `acceptSet` is indexed by (the model's `famName` and `bitsOf` go
from the flag straight to the name and the width) -/
def famOf (v6 : Bool) : Fam := if v6 then .v6 else .v4

theorem accepts_iff {p : JPolicy} (hr : restricted p = true) (hj : p.thenReject = true) (r : Route) :
    accepts p r = true ↔ ∃ g ∈ acceptSet (famOf r.v6) p, g.matchesRoute r = true := by
  unfold accepts
  simp only [hj, Bool.not_true, Bool.or_false, List.any_eq_true, Bool.and_eq_true]
  unfold restricted at hr
  simp only [List.all_eq_true] at hr
  have hname : (famOf r.v6).name = famName r.v6 := by cases r.v6 <;> rfl
  constructor
  · rintro ⟨kt, hkt, hacc, hm⟩
    have h1 := hr kt hkt
    simp only [hacc, Bool.not_true, Bool.false_or, Bool.and_eq_true, Bool.or_eq_true, beq_iff_eq,
      Bool.not_eq_true', List.isEmpty_eq_false_iff] at h1
    unfold JTerm.matchesRoute at hm
    simp only [Bool.and_eq_true, Bool.or_eq_true, List.any_eq_true] at hm
    obtain ⟨hf, hfil⟩ := hm
    rcases hfil with he | ⟨g, hg, hgm⟩
    · exact absurd (List.isEmpty_iff.1 he) h1.2
    · refine ⟨g, (mem_acceptSet _ _ _).2 ⟨kt, hkt, hacc, ?_, hg⟩, hgm⟩
      rcases h1.1 with e | e <;> (rw [e] at hf ⊢; simp only [beq_iff_eq] at hf; rw [hname, hf])
  · rintro ⟨g, hg, hgm⟩
    obtain ⟨kt, hkt, hacc, hfam, hx⟩ := (mem_acceptSet _ _ _).1 hg
    refine ⟨kt, hkt, hacc, ?_⟩
    unfold JTerm.matchesRoute
    simp only [hfam, hname, beq_self_eq_true, Bool.true_and, Bool.or_eq_true, List.any_eq_true]
    exact Or.inr ⟨g, hx, hgm⟩

theorem installs_accepts {p : JPolicy} {a b : List Range} (h : Installs p a b) (r : Route) :
    accepts p r = true ↔ ∃ g ∈ (if r.v6 then b else a), g.matchesRoute r = true := by
  rw [accepts_iff (restricted_wf h.1) h.1.1]
  cases r.v6
  · simp only [famOf, Bool.false_eq_true, if_false, acceptSet_wf h.1, h.2.1]
  · simp only [famOf, if_true, acceptSet_wf h.1, h.2.2]

/-! ### candidates and their evaluation (C03) -/

theorem marked_is_candidate {running : List RStmt} {cands : List (Str × Option Str)}
    (hc : candidates .fixed running = .ok cands) {s : RStmt} (hs : s ∈ running) (hm : s.marked = true) :
    alGet s.name cands = some (match s.ann with | .parsed e => some e | _ => none) := by
  unfold candidates at hc
  simp only at hc
  split at hc
  · rename_i hnd
    cases hc
    unfold RStmt.marked at hm
    simp only [Bool.and_eq_true, bne_iff_ne, ne_eq] at hm
    refine alGet_of_mem_nodup hnd (List.mem_filterMap.2 ⟨s, hs, ?_⟩)
    cases hx : s.ann with
    | none => exact absurd hx hm.2
    | malformed => simp [candOf, hm.1.1, hm.1.2, hx, nameOf, Cfg.fixed]
    | parsed e => simp [candOf, hm.1.1, hm.1.2, hx, nameOf, Cfg.fixed]
  · cases hc

theorem alGet_evaluateAll (oracle : Str → Option (List Range × List Range)) (cands : List (Str × Option Str))
    (n : Str) :
    alGet n (evaluateAll oracle cands) = (alGet n cands).map fun e =>
      match e with
      | some e => ⟨e, oracle e⟩
      | none => ⟨[], none⟩ :=
  alGet_map (fun _ (e : Option Str) => (match e with | some e => ⟨e, oracle e⟩ | none => ⟨[], none⟩ : Evaluated)) n cands

theorem marked_unobtainable {running : List RStmt} {cands : List (Str × Option Str)}
    (hc : candidates .fixed running = .ok cands) (oracle : Str → Option (List Range × List Range))
    {s : RStmt} (hs : s ∈ running) (hm : s.marked = true)
    (hbad : s.ann = .malformed ∨ ∃ e, s.ann = .parsed e ∧ oracle e = none) :
    ∃ e, alGet s.name (evaluateAll oracle cands) = some ⟨e, none⟩ := by
  rw [alGet_evaluateAll, marked_is_candidate hc hs hm]
  rcases hbad with h | ⟨e, hp, hf⟩
  · rw [h]; exact ⟨[], rfl⟩
  · rw [hp]; exact ⟨e, by simp [hf]⟩

end Policy
