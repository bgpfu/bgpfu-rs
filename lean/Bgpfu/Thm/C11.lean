import Bgpfu.Lemmas.EvalSound
import Bgpfu.Lemmas.EvaluateAll
import Bgpfu.Lemmas.IrrExamples
/-!
# C11 — filter-expression evaluation equals RPSL set semantics over the IRR data

`evaluate cfg db fuel e [] : Ev → …` is the model of `RpslEvaluator::evaluate` talking to the
(fault-free) IRRd `serve db`; `RpslSpec.denote db fuel e : Pfx → Prop` is the reference semantics
written from RFC 2622 / RFC 4012 (`Model/RpslSpec.lean`), with set expansion as the inductive
reachability relation `Reach`.  Prefix sets are compared extensionally, on every prefix whose
length exists in its address family (`Pfx.Valid`).

Side conditions.  `OpsOk` (the expression) and `DbOpsOk` (route-set members, stored filters) restrict
the upper bound `m` of `^n-m` operators, and nothing else: on a single `<prefix>^n-m` member, `m` is at
most the maximum length of that prefix's family; on an operator applied to a whole set (`{…}^n-m`,
`AS-FOO^n-m`, `RS-X^n-m`), `m ≤ 32` whatever the set holds — so `AS-FOO^48-64` over IPv6 routes is outside
the theorems.  `Cfg.pinned` is the pinned snapshot, `Cfg.fixed` is /repo now (381b0ea); for `Cfg.pinned`
no route-set member may carry a range operator (`RsPlain`; defect D16).
-/
namespace Irr
open Rpsl RpslSpec

/-- the fake IRRd's recursive expansion (`!i<set>,1`) is the reflexive-transitive closure of
membership, for every database — nested, cyclic and self-referencing sets included -/
theorem serve_expansion_correct {α : Type} (g : Graph α) (s : String) (x : α) :
    x ∈ expand g s ↔ LeafOf g s x :=
  mem_expand g s x

/-- **as-set**: whenever the as-set resolver succeeds, its result is exactly the set of `route` /
`route6` prefixes originated by the ASes in the membership closure of the set (both families;
cyclic databases included; ASes without routes contribute nothing). -/
theorem asset_correct (db : Db) (s : String) (st : Ev) (hst : Clean st) (P : PSet)
    (h : (resolveAsSet { db := db, faults := [] } s st).1 = .ok P) (p : Pfx) :
    P p = true ↔ ∃ a, LeafOf db.asSets s a ∧ Routes db a p :=
  (resolveAsSet_sound db s).post hst h p

/-- **evaluation = denotation**: for every database and every expression that meet the side
conditions of the header (`DbOpsOk`, `OpsOk`: upper bounds of `^n-m`; `RsOk`: no operator on a
route-set member under `Cfg.pinned`) — any nesting of AND / OR / NOT, range operators on literals and
on sets, as-sets, route-sets, aut-nums, filter-set indirection — and every evaluator between
evaluations: if the evaluation succeeds, the resulting set agrees with the RFC 2622 / 4012 denotation
of the expression on every prefix of a length its family has. -/
theorem eval_eq_denote (cfg : Cfg) (db : Db) (hrs : RsOk cfg db) (hdb : DbOpsOk db)
    (fuel : Nat) (e : Expr) (hops : OpsOk e) (st : Ev) (hst : Clean st)
    (P : PSet) (st' : Ev) (ev : List Event)
    (h : evaluate cfg db fuel e [] st = (.ok P, st', ev)) (q : Pfx) (hq : q.Valid) :
    P q = true ↔ denote db fuel e q :=
  (eval_sound cfg db hrs hdb fuel e hops).post (beginEval_clean st hst) (congrArg Prod.fst h) q hq

/-- the pinned snapshot, on databases whose route-set members are plain prefixes -/
theorem eval_eq_denote_pinned (db : Db) (hplain : RsPlain db) (hdb : DbOpsOk db)
    (fuel : Nat) (e : Expr) (hops : OpsOk e) (P : PSet) (st' : Ev) (ev : List Event)
    (h : evaluate .pinned db fuel e [] Ev.fresh = (.ok P, st', ev)) (q : Pfx) (hq : q.Valid) :
    P q = true ↔ denote db fuel e q :=
  eval_eq_denote .pinned db (.inr hplain) hdb fuel e hops Ev.fresh fresh_clean P st' ev h q hq

/-- /repo now (the route-set resolver honours range operators), on every database with `DbOpsOk` -/
theorem eval_eq_denote_fixed (db : Db) (hdb : DbOpsOk db)
    (fuel : Nat) (e : Expr) (hops : OpsOk e) (P : PSet) (st' : Ev) (ev : List Event)
    (h : evaluate .fixed db fuel e [] Ev.fresh = (.ok P, st', ev)) (q : Pfx) (hq : q.Valid) :
    P q = true ↔ denote db fuel e q :=
  eval_eq_denote .fixed db (.inl ⟨rfl, hdb⟩) hdb fuel e hops Ev.fresh fresh_clean P st' ev h q hq

/-- the result does not depend on the history of the evaluator (C17) -/
theorem eval_eq_denote_after_history (cfg : Cfg) (db : Db) (hrs : RsOk cfg db) (hdb : DbOpsOk db)
    (fuel : Nat) (hist : List (Expr × Faults)) (e : Expr) (hops : OpsOk e)
    (P : PSet) (st' : Ev) (ev : List Event)
    (h : evaluate cfg db fuel e [] (evalSeq cfg db fuel hist Ev.fresh).2 = (.ok P, st', ev))
    (q : Pfx) (hq : q.Valid) : P q = true ↔ denote db fuel e q :=
  eval_eq_denote cfg db hrs hdb fuel e hops _ (evalSeq_clean cfg db fuel hist Ev.fresh fresh_clean)
    P st' ev h q hq

/-- **partition**: the IPv4 and IPv6 parts handed to the router (eval.rs:47-50) reunite to the
evaluated set: every prefix is in exactly the part of its own family, with unchanged membership. -/
theorem partition_lossless (s : PSet) (q : Pfx) :
    s q = (match q.fam with
      | .v4 => (partition s).1 q.bits q.len
      | .v6 => (partition s).2 q.bits q.len) := by
  obtain ⟨f, b, l⟩ := q
  cases f <;> rfl

/-- what the agent installs for a candidate (`candOut`) is the denotation, family by family -/
theorem installed_eq_denote (cfg : Cfg) (db : Db) (hrs : RsOk cfg db) (hdb : DbOpsOk db)
    (fuel : Nat) (e : Expr) (hops : OpsOk e) (ps : Parts)
    (h : candOut (evaluate cfg db fuel e [] Ev.fresh).1 = some ps) (q : Pfx) (hq : q.Valid) :
    (match q.fam with
      | .v4 => ps.1 q.bits q.len
      | .v6 => ps.2 q.bits q.len) = true ↔ denote db fuel e q := by
  obtain ⟨P, hP, rfl⟩ := candOut_eq_some.mp h
  rw [← partition_lossless]
  exact (eval_sound cfg db hrs hdb fuel e hops).post (beginEval_clean _ fresh_clean) hP q hq

/-- the model's set-level range operator agrees with rpsl's range-level `apply` on a single
`<prefix><op>` (this is what ties `applyOp` to `eval/apply.rs` + generic-ip's `with_length_range`) -/
theorem rangeop_member_agrees (op : RangeOp) (p q : Pfx) (hq : q.Valid)
    (hw : OpWithin p.fam.maxLen op) :
    (∃ r, memberRange op p = some r ∧ r.mem q = true) ↔ opSet op (· = p) q :=
  member_mem op p q hq hw

/-- … and on sets: rpsl applies the operator to `output.ranges()`; whatever list of well-formed
ranges generic-ip aggregates the set into, the surviving ranges denote the model's `applyOp` -/
theorem rangeop_set_agrees (op : RangeOp) (rs : List Range) (hrs : ∀ r ∈ rs, r.Wf) (q : Pfx) :
    applyOp op (PSet.ofRanges rs) q = true ↔ PSet.ofRanges (applyRanges op rs) q = true :=
  applyOp_ofRanges op rs hrs q

/-! ### the pinned snapshot: route-set members with a range operator are dropped (D16) -/

def cexDb : Db :=
  { emptyIsD := true, asSets := [], routes := [], filterSets := []
    routeSets := [("RS-X", [.leaf (.pfx ⟨.v4, 10, 8⟩ .lessIncl)])] }

/-- `RS-X = {10.0.0.0/8^+}`: RFC 2622 puts 10.0.0.0/9 into the set; the evaluator returns the empty
set without any error (the member does not parse as `Prefix<Any>` and the error is sunk) -/
theorem routeset_range_member_dropped_cex :
    okAt (evaluate .pinned cexDb 1 (.prefixSet (.named (.routeSet "RS-X")) .none) [] Ev.fresh).1 ⟨.v4, 20, 9⟩
        = false ∧
      (evaluate .pinned cexDb 1 (.prefixSet (.named (.routeSet "RS-X")) .none) [] Ev.fresh).1.isOk = true ∧
      denote cexDb 1 (.prefixSet (.named (.routeSet "RS-X")) .none) ⟨.v4, 20, 9⟩ := by
  refine ⟨by decide +kernel, by decide +kernel, ?_⟩
  refine ⟨⟨.v4, 20, 9⟩, ⟨.pfx ⟨.v4, 10, 8⟩ .lessIncl, ⟨"RS-X", _, .refl, rfl, by simp⟩, ?_⟩, by decide +kernel, rfl⟩
  exact ⟨⟨.v4, 10, 8⟩, rfl, by decide +kernel, trivial⟩

/-- with the repair the member is honoured -/
example :
    okAt (evaluate .fixed cexDb 1 (.prefixSet (.named (.routeSet "RS-X")) .none) [] Ev.fresh).1 ⟨.v4, 20, 9⟩
      = true := by decide +kernel

/-- The rpsl crate's grammar gives `AND`, `OR` equal precedence, nests to the right, and lets `NOT`
extend over everything to its right: `A AND B OR C` is read as `A AND (B OR C)` and `NOT A AND B`
as `NOT (A AND B)`, where RFC 2622 §5.4 prescribes `(A AND B) OR C` and `(NOT A) AND B`.  With
`A, B, C = {10.0.0.0/8}, {11.0.0.0/8}, {12.0.0.0/8}` both pairs differ on 12.0.0.0/8: it is not in
`A AND (B OR C)` but in `(A AND B) OR C`, and it is in `NOT (A AND B)` but not in `(NOT A) AND B`
(spec class `operator-precedence`; `eval_eq_denote` is about the tree the parser built). -/
theorem operator_precedence_cex :
    let a : Expr := .prefixSet (.lit [(⟨.v4, 10, 8⟩, .none)]) .none
    let b : Expr := .prefixSet (.lit [(⟨.v4, 11, 8⟩, .none)]) .none
    let c : Expr := .prefixSet (.lit [(⟨.v4, 12, 8⟩, .none)]) .none
    parseCrate (0, a) [(.and, 0, b), (.or, 0, c)] = .and a (.or b c) ∧
    parseRfc (0, a) [(.and, 0, b), (.or, 0, c)] = .or (.and a b) c ∧
    okAt (evaluate .pinned cexDb 1 (parseCrate (0, a) [(.and, 0, b), (.or, 0, c)]) [] Ev.fresh).1 ⟨.v4, 12, 8⟩ = false ∧
    okAt (evaluate .pinned cexDb 1 (parseRfc (0, a) [(.and, 0, b), (.or, 0, c)]) [] Ev.fresh).1 ⟨.v4, 12, 8⟩ = true ∧
    parseCrate (1, a) [(.and, 0, b)] = .not (.and a b) ∧
    parseRfc (1, a) [(.and, 0, b)] = .and (.not a) b ∧
    okAt (evaluate .pinned cexDb 1 (parseCrate (1, a) [(.and, 0, b)]) [] Ev.fresh).1 ⟨.v4, 12, 8⟩ = true ∧
    okAt (evaluate .pinned cexDb 1 (parseRfc (1, a) [(.and, 0, b)]) [] Ev.fresh).1 ⟨.v4, 12, 8⟩ = false := by
  decide +kernel

/-! ### Non-vacuity (database `exDb`: cyclic as-sets) -/

/-- the cyclic as-sets expand to both ASes, from either entry point -/
example : expand exDb.asSets "AS-A" = [1, 2] ∧ expand exDb.asSets "AS-B" = [2, 1] := by decide +kernel

/-- `(AS-A^+ AND NOT {10.0.0.0/8^9-24}) OR FLTR-F` on the cyclic database: succeeds; contains
10.0.0.0/8, 10.0.0.0/25, 2001:db8::/48 and 192.0.2.0/24; does not contain 10.0.0.0/9 or 11.0.0.0/8 -/
example :
    let e : Expr := .or (.and (.prefixSet (.named (.asSet "AS-A")) .lessIncl)
        (.not (.prefixSet (.lit [(⟨.v4, 10, 8⟩, .range 9 24)]) .none))) (.filterSet "FLTR-F")
    let o := (evaluate .pinned exDb 2 e [] Ev.fresh).1
    okAt o ⟨.v4, 10, 8⟩ = true ∧ okAt o ⟨.v4, 10 * 2 ^ 17, 25⟩ = true ∧
      okAt o ⟨.v6, 0x20010db8 * 2 ^ 16, 48⟩ = true ∧ okAt o ⟨.v4, 0xc00002, 24⟩ = true ∧
      okAt o ⟨.v4, 20, 9⟩ = false ∧ okAt o ⟨.v4, 11, 8⟩ = false := by decide +kernel

end Irr
