import Bgpfu.Lemmas.CapsExact
import Bgpfu.Lemmas.Builders
import Bgpfu.Lemmas.BuildersConverse
/-!
# C09 — requests use only what the server's advertised capabilities permit

* `Builders.build cfg ctx b` — the model of `session.rpc::<O, _>(build_fn)` up to the point where
  the request is handed to the transport (`Model/Builders.lean`, mirrors /repo/netconf arm by arm);
  `ctx.caps` is the server's capability set, **any** `List Capability` (with arbitrary URL scheme
  lists), `b` the operation with **any** sequence of builder calls.
* `Rfc.requires r` — the RFC 6241 section 8 table (`Model/Rfc6241.lean`), written from the RFC.
* `Cfg.pinned` is the pinned snapshot of /repo, before the repairs of D6, E1, E2 (and E3 in the hello reader);
  `Cfg.fixed` is /repo now, with them.
-/
namespace Builders
open Caps Rfc

/-- The request shapes on which the pinned snapshot (`Cfg.pinned`) deviates from the RFC table. -/
def deviates : Request → Bool
  | .get (some .xpath) => true                       -- D6
  | .editConfig (.ds .startup) _ _ _ _ => true       -- E1
  | .deleteConfig (.ds .candidate) => true           -- E2
  | _ => false

/-- **C09, safety (/repo now, `Cfg.fixed`).**  For every capability set the server may
advertise (any list of capabilities, any URL scheme lists), every operation and every sequence
of builder calls: if a request reaches the transport, every requirement the RFC 6241 §8 table
attaches to that request is met by the advertised capabilities. -/
theorem sent_implies_permitted (ctx : Ctx) (b : Build) (r : Request)
    (h : build .fixed ctx b = .ok r) : ∀ q ∈ requires r, q.check ctx.caps = true :=
  sent_implies_permitted_of .fixed ctx b r h (by simp [Cfg.fixed]) (by simp [Cfg.fixed]) (by simp [Cfg.fixed])

/-- Full statement for the **pinned snapshot**: `build .pinned ctx b = .ok r → ∀ q ∈ requires r, …`
is false (`get_xpath_unchecked_cex`, `edit_config_startup_cex`, `delete_config_candidate_cex`).
Proved part: it holds for every request outside the three deviating shapes. -/
theorem sent_implies_permitted_pinned_partial (ctx : Ctx) (b : Build) (r : Request)
    (h : build .pinned ctx b = .ok r) (hdev : deviates r = false) :
    ∀ q ∈ requires r, q.check ctx.caps = true := by
  refine sent_implies_permitted_of .pinned ctx b r h ?_ ?_ ?_
  · intro _ hr; subst hr; simp [deviates] at hdev
  · intro _ a b c d hr; subst hr; simp [deviates] at hdev
  · intro _ hr; subst hr; simp [deviates] at hdev

/-- **C09, converse (both configurations).**  If the operation itself is permitted
(`opRequires`), every builder call's argument is permitted by the RFC table (`callsRequire`),
the arguments are valid as such (`argsValid`: URL texts are URIs, the kill-session id is
non-zero and not the own session) and the mandatory parameters are supplied and compatible
(`complete`), then the build succeeds and a request is sent. -/
theorem permitted_implies_buildable (cfg : Cfg) (ctx : Ctx) (b : Build)
    (hop : ∀ q ∈ opRequires b, q.check ctx.caps = true)
    (hcalls : ∀ q ∈ callsRequire b, q.check ctx.caps = true)
    (hargs : argsValid ctx b = true)
    (hcomp : complete b = true) :
    ∃ r, build cfg ctx b = .ok r := by
  cases b with
  | get cs =>
    obtain ⟨st, hst⟩ := foldCalls_succeeds (Get.step cfg ctx) cs (by
      intro c hcm s
      cases c with
      | filter f =>
        simp only [Get.step, Get.filter]
        split
        · rw [(filterOptTryUse_ok_iff "get").2 ⟨rfl, (allOk_unlabel _ _).2 (mem_flatMap_reqs hcalls _ hcm)⟩]
          exact ⟨_, rfl⟩
        · exact ⟨_, rfl⟩) Get.new
    exact buildable_of_fold rfl rfl hst rfl
  | getConfig cs => exact getConfig_buildable cfg ctx cs hcalls hcomp
  | editConfig cs => exact editConfig_buildable cfg ctx cs hcalls hargs hcomp
  | copyConfig cs => exact copyConfig_buildable cfg ctx cs hcalls hcomp
  | deleteConfig cs => exact deleteConfig_buildable cfg ctx cs hcalls hargs hcomp
  | lock cs =>
    exact buildable_of_all (·.target) rfl rfl hcomp (Lock.step_succeeds "lock" hcalls)
      (fun st t ht => ⟨.lock t, by simp [Lock.finishLock, require, ht]⟩)
  | unlock cs =>
    exact buildable_of_all (·.target) rfl rfl hcomp (Lock.step_succeeds "unlock" hcalls)
      (fun st t ht => ⟨.unlock t, by simp [Lock.finishUnlock, require, ht]⟩)
  | killSession cs =>
    refine buildable_of_all (·.sessionId) rfl rfl hcomp (fun c hcm s => ?_)
      (fun st t ht => ⟨.killSession t, by simp [KillSession.finish, require, ht]⟩)
    have := List.all_eq_true.1 hargs c hcm
    cases c with
    | sessionId n =>
      simp only [KillSession.argValid, decide_eq_true_eq] at this
      exact ⟨{ s with sessionId := some n }, by simp [KillSession.step, KillSession.sessionId, this.1, this.2], rfl⟩
  | commit cs => exact commit_buildable cfg ctx cs hop hcalls hcomp
  | cancelCommit cs =>
    have h11 : (Requirements.one .confirmedCommit11).check ctx.caps = true := hop _ (.head _)
    obtain ⟨st, hst⟩ := foldCalls_succeeds (CancelCommit.step ctx) cs (by
      intro c _ s
      cases c with
      | persistId t => exact ⟨{ s with persistId := t }, by simp [CancelCommit.step, CancelCommit.persistId, h11]⟩)
      CancelCommit.new
    exact buildable_of_fold rfl h11 hst rfl
  | discardChanges => exact ⟨_, (build_ok_iff ..).2 ⟨hop _ (.head _), _, rfl, rfl⟩⟩
  | validate cs => exact validate_buildable cfg ctx cs hop hcalls hcomp
  | closeSession => exact ⟨_, (build_ok_iff ..).2 ⟨rfl, _, rfl, rfl⟩⟩
  | closeConfiguration => exact ⟨_, (build_ok_iff ..).2 ⟨hop _ (.head _), _, rfl, rfl⟩⟩
  | lockConfiguration => exact ⟨_, (build_ok_iff ..).2 ⟨hop _ (.head _), _, rfl, rfl⟩⟩
  | unlockConfiguration => exact ⟨_, (build_ok_iff ..).2 ⟨hop _ (.head _), _, rfl, rfl⟩⟩
  -- no call of the three Junos builders can fail
  | openConfiguration cs =>
    refine buildable_of_all (·.target) rfl (hop _ (.head _)) hcomp (fun c _ s => ?_)
      (fun st t ht => ⟨.openConfiguration t, by simp [OpenConfiguration.finish, require, ht]⟩)
    cases c with
    | priv => exact ⟨_, rfl, rfl⟩
    | ephemeral n => cases n <;> exact ⟨_, rfl, rfl⟩
  | loadConfiguration cs =>
    exact buildable_of_all (·.source) rfl (hop _ (.head _)) hcomp (fun c _ s => by cases c; exact ⟨_, rfl, rfl⟩)
      (fun st t ht => ⟨.loadConfiguration t, by simp [LoadConfiguration.finish, require, ht]⟩)
  | commitConfiguration cs =>
    obtain ⟨st, hst⟩ := foldCalls_succeeds CommitConfiguration.step cs
      (fun c _ s => by cases c <;> exact ⟨_, rfl⟩) CommitConfiguration.new
    exact buildable_of_fold rfl (hop _ (.head _)) hst rfl

/-- **C09, converse, at the level of requests** — the second sentence of the property as it
stands: every request the builder API can express at all (`callsFor r = some b`: `b` is the
canonical way of asking for `r`) and whose content stays within the advertised capabilities
(every entry of the RFC table for `r` holds) is built and sent, exactly as `r`.
(`hk`: a kill-session request names another, valid session.) -/
theorem permitted_request_buildable (caps : List Capability) (sid : Nat) (r : Request) (b : Build)
    (hb : callsFor r = some b)
    (hk : ∀ n, r = .killSession n → n ≠ 0 ∧ n ≠ sid)
    (hp : ∀ q ∈ requires r, q.check caps = true) :
    build .fixed ⟨caps, sid⟩ b = .ok r :=
  request_buildable .fixed caps sid r b hb hk ((allOk_iff _ _).2 hp)

/-- **Nothing is sent on a local failure** (session.rs:296-318): a failing build leaves the
transport untouched (only the message-id counter advances). -/
theorem nothing_sent_on_error (cfg : Cfg) (s : Session) (b : Build) (e : ErrKind)
    (h : build cfg s.ctx b = .error e) :
    (s.rpc cfg b).1.wire = s.wire ∧ (s.rpc cfg b).2 = .error e := by
  simp [Session.rpc, h]

/-- and a successful one appends exactly the rendered request, under a fresh message-id -/
theorem sent_is_built (cfg : Cfg) (s : Session) (b : Build) (r : Request)
    (h : build cfg s.ctx b = .ok r) :
    (s.rpc cfg b).1.wire = s.wire ++ [(s.lastMessageId + 1, r)] ∧ (s.rpc cfg b).2 = .ok () := by
  simp [Session.rpc, h]

/-- Session-level form of safety: everything a session ever put on the wire is permitted. -/
theorem session_wire_permitted (s : Session) (bs : List Build)
    (hs : ∀ p ∈ s.wire, ∀ q ∈ requires p.2, q.check s.ctx.caps = true) :
    ∀ p ∈ (bs.foldl (fun s b => (s.rpc .fixed b).1) s).wire,
      ∀ q ∈ requires p.2, q.check s.ctx.caps = true := by
  induction bs generalizing s with
  | nil => exact hs
  | cons b bs ih =>
    -- one `rpc` keeps the context and puts at most the request just built on the wire
    have step : (s.rpc .fixed b).1.ctx = s.ctx
        ∧ ∀ p ∈ (s.rpc .fixed b).1.wire, ∀ q ∈ requires p.2, q.check s.ctx.caps = true := by
      unfold Session.rpc
      split
      · exact ⟨rfl, hs⟩
      · next r hb =>
        refine ⟨rfl, fun p hp => (List.mem_append.1 hp).elim (hs p) fun hp => ?_⟩
        rw [List.mem_singleton.1 hp]
        exact sent_implies_permitted s.ctx b r hb
    have := ih (s.rpc .fixed b).1 (step.1 ▸ step.2)
    rwa [step.1] at this

/-! ### counter-examples for the pinned snapshot (`Cfg.pinned`) -/

/-- **D6**: a server advertising only `:base:1.0`; `get` with an XPath filter is sent although
`:xpath` was not advertised (the snapshot's get.rs `Builder::filter` has no context and performs no check). -/
theorem get_xpath_unchecked_cex :
    build .pinned ⟨[.base10], 4⟩ (.get [.filter (some .xpath)]) = .ok (.get (some .xpath))
    ∧ (Requirement.cap .xpath) ∈ requires (.get (some .xpath))
    ∧ (Requirement.cap .xpath).check [.base10] = false := by decide +kernel

/-- /repo now refuses it locally -/
theorem get_xpath_checked_fixed :
    build .fixed ⟨[.base10], 4⟩ (.get [.filter (some .xpath)]) = .error .unsupportedFilterType := by decide +kernel

/-- **E1**: with `:startup` advertised, `edit-config` is sent with `<target><startup/>`, which RFC
6241 permits under no capability (8.7.5.1 does not list edit-config; YANG `edit-config/target` has
only `candidate` and `running`). -/
theorem edit_config_startup_cex :
    build .pinned ⟨[.base10, .startup], 4⟩ (.editConfig [.target .startup, .config])
      = .ok (.editConfig (.ds .startup) none none none .config)
    ∧ Requirement.never ∈ requires (.editConfig (.ds .startup) none none none .config) := by decide +kernel

theorem edit_config_startup_fixed :
    build .fixed ⟨[.base10, .startup], 4⟩ (.editConfig [.target .startup, .config])
      = .error .unsupportedTarget := by decide +kernel

/-- **E2**: with `:candidate` advertised, `delete-config` is sent with `<target><candidate/>`;
RFC 6241 permits only `<startup/>` (8.7.5.1) and URLs (8.8.5.3) as delete-config targets. -/
theorem delete_config_candidate_cex :
    build .pinned ⟨[.base10, .candidate], 4⟩ (.deleteConfig [.target .candidate])
      = .ok (.deleteConfig (.ds .candidate))
    ∧ Requirement.never ∈ requires (.deleteConfig (.ds .candidate)) := by decide +kernel

theorem delete_config_candidate_fixed :
    build .fixed ⟨[.base10, .candidate], 4⟩ (.deleteConfig [.target .candidate])
      = .error .unsupportedTarget := by decide +kernel

/-- **E3** (hello reader, not a builder): the span of
`<capability>…url:1.0?scheme=https&amp;foo=bar&amp;scheme=sftp</capability>` is parsed without
resolving `&amp;`, so the second `scheme` argument is lost and `sftp` URLs are refused although the
server advertised the scheme; with character references resolved both schemes are found. -/
theorem url_scheme_after_amp_lost_cex :
    urlSchemes "scheme=https&amp;foo=bar&amp;scheme=sftp".toList = ["https".toList]
    ∧ urlSchemes "scheme=https&foo=bar&scheme=sftp".toList = ["https".toList, "sftp".toList]
    ∧ build .pinned ⟨[.base10, .url (urlSchemes "scheme=https&amp;foo=bar&amp;scheme=sftp".toList)], 4⟩
        (.deleteConfig [.url (some "sftp".toList)]) = .error .unsupportedUrlScheme
    ∧ build .pinned ⟨[.base10, .url (urlSchemes "scheme=https&foo=bar&scheme=sftp".toList)], 4⟩
        (.deleteConfig [.url (some "sftp".toList)]) = .ok (.deleteConfig (.url "sftp".toList)) := by
  decide +kernel

/-! ### non-vacuity -/

/-- a request with every optional edit-config parameter is built when (and only when) the
capabilities are there -/
example :
    build .fixed ⟨[.base11, .candidate, .validate11, .rollbackOnError, .url ["file".toList, "https".toList]], 4⟩
      (.editConfig [.target .candidate, .url (some "https".toList), .defaultOperation .replace,
                    .errorOption .rollbackOnError, .testOption .testOnly])
      = .ok (.editConfig (.ds .candidate) (some .replace) (some .rollbackOnError) (some .testOnly)
              (.url "https".toList)) := by decide +kernel

example :
    build .fixed ⟨[.base11, .candidate, .validate10, .rollbackOnError, .url ["file".toList]], 4⟩
      (.editConfig [.target .candidate, .url (some "https".toList)]) = .error .unsupportedUrlScheme
    ∧ build .fixed ⟨[.base11, .candidate, .validate10], 4⟩
      (.editConfig [.target .candidate, .config, .testOption .testOnly]) = .error .unsupportedOperParameterValue
    ∧ build .fixed ⟨[.base11, .candidate, .validate10], 4⟩
      (.editConfig [.target .candidate, .config, .testOption .set])
        = .ok (.editConfig (.ds .candidate) none none (some .set) .config) := by decide +kernel

/-- confirmed-commit 1.0 allows `confirmed`/`confirm-timeout` but not `persist` -/
example :
    build .fixed ⟨[.base10, .candidate, .confirmedCommit10], 4⟩
      (.commit [.confirmed true, .confirmTimeout 120]) = .ok (.commit true (some 120) none none)
    ∧ build .fixed ⟨[.base10, .candidate, .confirmedCommit10], 4⟩
      (.commit [.confirmed true, .persist (some ['t'])]) = .error .unsupportedOperationParameter
    ∧ build .fixed ⟨[.base10, .confirmedCommit11], 4⟩ (.commit []) = .error .unsupportedOperation := by decide +kernel

/-- the hypotheses of `permitted_implies_buildable` are satisfiable, and its conclusion is not
trivially true: the same calls fail without the capability -/
example :
    (∀ q ∈ callsRequire (.getConfig [.source .candidate, .filter (some .xpath)]),
        q.check [.base10, .candidate, .xpath] = true)
    ∧ complete (.getConfig [.source .candidate, .filter (some .xpath)]) = true
    ∧ build .fixed ⟨[.base10, .xpath], 4⟩ (.getConfig [.source .candidate, .filter (some .xpath)])
        = .error .unsupportedSource := by decide +kernel

/-- `callsFor` is defined on the requests the API can express and undefined only where no builder
method exists (e.g. a URL as copy-config target) -/
example :
    callsFor (.editConfig (.ds .candidate) (some .replace) none (some .testOnly) (.url "file".toList))
      = some (.editConfig [.target .candidate, .url (some "file".toList), .defaultOperation .replace,
                           .testOption .testOnly])
    ∧ callsFor (.commit true (some 120) (some ['t']) none)
      = some (.commit [.confirmed true, .confirmTimeout 120, .persist (some ['t'])])
    ∧ callsFor (.copyConfig (.url "file".toList) (.ds .running)) = none := by decide +kernel

end Builders

/-! ## Exactness of capability recognition (`impl FromStr for Capability`, capabilities.rs:123-183)

For **every** decomposition `p : UriParts` of the capability text (whatever iri-string returns):
a capability of the table is recognised **iff** the five components are exactly those of the
table (`UriParts.Is`: scheme, authority, path as given, **no** query, **no** fragment). So no URI
with a query or a fragment — not even an empty one (`some []`: `…base:1.0#`, `…base:1.0?`) —,
another scheme spelling or a longer/shorter path is ever taken for it. -/
namespace Caps

theorem classify_base10_iff (raw : Str) (p : UriParts) :
    classify raw p = .base10 ↔ p.Is "urn" none "ietf:params:netconf:base:1.0" :=
  classify_eq_iff rfl raw p

theorem classify_base11_iff (raw : Str) (p : UriParts) :
    classify raw p = .base11 ↔ p.Is "urn" none "ietf:params:netconf:base:1.1" :=
  classify_eq_iff rfl raw p

theorem classify_writableRunning_iff (raw : Str) (p : UriParts) :
    classify raw p = .writableRunning ↔ p.Is "urn" none "ietf:params:netconf:capability:writable-running:1.0" :=
  classify_eq_iff rfl raw p

theorem classify_candidate_iff (raw : Str) (p : UriParts) :
    classify raw p = .candidate ↔ p.Is "urn" none "ietf:params:netconf:capability:candidate:1.0" :=
  classify_eq_iff rfl raw p

theorem classify_confirmedCommit10_iff (raw : Str) (p : UriParts) :
    classify raw p = .confirmedCommit10 ↔ p.Is "urn" none "ietf:params:netconf:capability:confirmed-commit:1.0" :=
  classify_eq_iff rfl raw p

theorem classify_confirmedCommit11_iff (raw : Str) (p : UriParts) :
    classify raw p = .confirmedCommit11 ↔ p.Is "urn" none "ietf:params:netconf:capability:confirmed-commit:1.1" :=
  classify_eq_iff rfl raw p

theorem classify_rollbackOnError_iff (raw : Str) (p : UriParts) :
    classify raw p = .rollbackOnError ↔ p.Is "urn" none "ietf:params:netconf:capability:rollback-on-error:1.0" :=
  classify_eq_iff rfl raw p

theorem classify_validate10_iff (raw : Str) (p : UriParts) :
    classify raw p = .validate10 ↔ p.Is "urn" none "ietf:params:netconf:capability:validate:1.0" :=
  classify_eq_iff rfl raw p

theorem classify_validate11_iff (raw : Str) (p : UriParts) :
    classify raw p = .validate11 ↔ p.Is "urn" none "ietf:params:netconf:capability:validate:1.1" :=
  classify_eq_iff rfl raw p

theorem classify_startup_iff (raw : Str) (p : UriParts) :
    classify raw p = .startup ↔ p.Is "urn" none "ietf:params:netconf:capability:startup:1.0" :=
  classify_eq_iff rfl raw p

theorem classify_xpath_iff (raw : Str) (p : UriParts) :
    classify raw p = .xpath ↔ p.Is "urn" none "ietf:params:netconf:capability:xpath:1.0" :=
  classify_eq_iff rfl raw p

theorem classify_junos_iff (raw : Str) (p : UriParts) :
    classify raw p = .junos ↔ p.Is "http" (some "xml.juniper.net") "/netconf/junos/1.0" :=
  classify_eq_iff rfl raw p

/-- the `:url:1.0` capability: exact scheme, no authority, exact path, no fragment, **some** query;
its scheme list is `urlSchemes` of that query -/
theorem classify_url_iff (raw : Str) (p : UriParts) (l : List Str) :
    classify raw p = .url l ↔
      p.scheme = "urn".toList ∧ p.authority = none ∧ p.path = "ietf:params:netconf:capability:url:1.0".toList ∧
        p.fragment = none ∧ ∃ q, p.query = some q ∧ l = urlSchemes q :=
  classify_eq_url_iff raw p l

/-- `Unknown` keeps the capability text as it stands (that whatever is outside the table is `Unknown`:
`classify_eq_unknown`) -/
theorem classify_unknown (raw t : Str) (p : UriParts) (h : classify raw p = .unknown t) : t = raw :=
  classify_unknown_raw h

/-- **C09/C12, exactness at the reader**: `:base:1.0` is recognised iff the capability text is a
URI whose components are exactly `urn`, no authority, `ietf:params:netconf:base:1.0`, no query, no
fragment. -/
theorem readCapability_base10_iff (b : Bool) (t : CapText) :
    readCapability b t = some .base10 ↔ ∃ p, t.parts = some p ∧ p.Is "urn" none "ietf:params:netconf:base:1.0" := by
  rw [readCapability_eq_iff b t _ (fun _ h => by cases h)]
  simp only [classify_base10_iff]

theorem readCapability_base11_iff (b : Bool) (t : CapText) :
    readCapability b t = some .base11 ↔ ∃ p, t.parts = some p ∧ p.Is "urn" none "ietf:params:netconf:base:1.1" := by
  rw [readCapability_eq_iff b t _ (fun _ h => by cases h)]
  simp only [classify_base11_iff]

/-! ### the scheme list of `:url:1.0` -/

/-- **the schemes are exactly the comma-separated values of the parameters named `scheme`**: `x` is
a scheme of the query iff one of its `&`-separated parameters is `scheme=` followed by a value one
of whose `,`-separated pieces is `x`. (`splitOn c` is *the* decomposition into `c`-free pieces
separated by `c`: `split_is_the_decomposition`.) -/
theorem url_schemes_mem_iff (q x : Str) :
    x ∈ urlSchemes q ↔
      ∃ param ∈ splitOn '&' q, ∃ value, param = "scheme=".toList ++ value ∧ x ∈ splitOn ',' value :=
  mem_urlSchemes_iff q x

/-- `str::split(c)` yields the one and only list of `c`-free pieces that, joined by `c`, give the text -/
theorem split_is_the_decomposition (c : Char) (l : Str) (ps : List Str) :
    splitOn c l = ps ↔ ps ≠ [] ∧ (∀ p ∈ ps, c ∉ p) ∧ joinSep c ps = l :=
  splitOn_eq_iff c l ps

/-- the same, declaratively: for a query written as `&`-free parameters joined by `&` -/
theorem url_schemes_of_params_mem_iff (params : List Str) (hne : params ≠ []) (hfree : ∀ p ∈ params, '&' ∉ p)
    (x : Str) :
    x ∈ urlSchemes (joinSep '&' params) ↔
      ∃ value, ("scheme=".toList ++ value) ∈ params ∧ x ∈ splitOn ',' value :=
  mem_urlSchemes_joinSep_iff params hne hfree x

/-- a parameter whose name is not exactly `scheme` (`fallback-scheme=…`, `xscheme=…`, `scheme` without
`=`, `Scheme=…`) contributes nothing: if no parameter starts with `scheme=`, there are no schemes -/
theorem url_schemes_nil_without_scheme_param (q : Str)
    (h : ∀ param ∈ splitOn '&' q, ¬ "scheme=".toList <+: param) : urlSchemes q = [] :=
  urlSchemes_eq_nil q h

/-- … and other parameters never change what the `scheme` parameters contribute -/
theorem url_schemes_ignore_other_params (params other : List Str) (hne : params ≠ [])
    (hfree : ∀ p ∈ params ++ other, '&' ∉ p) (hother : ∀ p ∈ other, ¬ "scheme=".toList <+: p) (x : Str) :
    x ∈ urlSchemes (joinSep '&' (params ++ other)) ↔ x ∈ urlSchemes (joinSep '&' params) :=
  urlSchemes_append_other params other hne hfree hother x

/-! ### near misses (non-vacuity and documentation) -/

/-- `urn:ietf:params:netconf:base:1.0#` — an empty fragment is a fragment -/
theorem base10_empty_fragment_is_unknown :
    classify "urn:ietf:params:netconf:base:1.0#".toList
      ⟨"urn".toList, none, "ietf:params:netconf:base:1.0".toList, none, some []⟩
      = .unknown "urn:ietf:params:netconf:base:1.0#".toList :=
  classify_of_fragment nofun

/-- `urn:ietf:params:netconf:base:1.0?` — an empty query is a query -/
theorem base10_empty_query_is_unknown :
    classify "urn:ietf:params:netconf:base:1.0?".toList
      ⟨"urn".toList, none, "ietf:params:netconf:base:1.0".toList, some [], none⟩
      = .unknown "urn:ietf:params:netconf:base:1.0?".toList :=
  classify_eq_unknown (fun _ _ _ _ _ h => nomatch h.2.2.2.1)
    (by simp only [ne_eq, String.toList_inj, String.reduceEq, not_false_eq_true])

/-- `urn:ietf:params:netconf:base:1.00`, `…base:1.`, `URN:…`, `urn://host/…`: longer / shorter path,
another scheme spelling, an authority -/
theorem base10_near_misses_are_unknown :
    classify [] ⟨"urn".toList, none, "ietf:params:netconf:base:1.00".toList, none, none⟩ = .unknown []
    ∧ classify [] ⟨"urn".toList, none, "ietf:params:netconf:base:1.".toList, none, none⟩ = .unknown []
    ∧ classify [] ⟨"URN".toList, none, "ietf:params:netconf:base:1.0".toList, none, none⟩ = .unknown []
    ∧ classify [] ⟨"urn".toList, some [], "ietf:params:netconf:base:1.0".toList, none, none⟩ = .unknown []
    ∧ classify [] ⟨"urn".toList, none, "ietf:params:netconf:base:1.0".toList, none, none⟩ = .base10 := by
  refine ⟨classify_eq_unknown ?_ ?_, classify_eq_unknown ?_ ?_, classify_eq_unknown ?_ ?_, classify_eq_unknown ?_ ?_,
    (classify_eq_iff rfl _ _).2 ⟨rfl, rfl, rfl, rfl, rfl⟩⟩
  all_goals first
    | (intro k s a pa hk h
       cases k <;> cases hk <;>
         simp only [UriParts.Is, String.toList_inj, String.reduceEq, Option.map, reduceCtorEq, false_and, and_false] at h)
    | simp only [ne_eq, String.toList_inj, String.reduceEq, not_false_eq_true]

/-- `?scheme=file&fallback-scheme=ftp`: only the parameter named `scheme` counts -/
theorem url_other_parameter_names_ignored :
    urlSchemes "scheme=file&fallback-scheme=ftp".toList = ["file".toList]
    ∧ urlSchemes "xscheme=http&fallback-scheme=ftp&scheme".toList = []
    ∧ urlSchemes "fallback-scheme=ftp&scheme=file,sftp&Scheme=http".toList = ["file".toList, "sftp".toList]
    ∧ classify [] ⟨"urn".toList, none, "ietf:params:netconf:capability:url:1.0".toList,
        some "scheme=file&fallback-scheme=ftp".toList, none⟩ = .url ["file".toList]
    ∧ urlSchemeAdvertised [.url (urlSchemes "scheme=file&fallback-scheme=ftp".toList)] "ftp".toList = false := by
  have h1 : urlSchemes "scheme=file&fallback-scheme=ftp".toList = ["file".toList] := by decide +kernel
  refine ⟨h1, by decide +kernel, by decide +kernel, (classify_url_iff _ _ _).2 ⟨rfl, rfl, rfl, rfl, _, rfl, h1.symm⟩, ?_⟩
  rw [h1]; decide +kernel

/-- capability parsing: the `:url:1.0` query is split into schemes; anything that is not an exact
match is `Unknown` -/
example :
    classify [] ⟨"urn".toList, none, urnCap "capability:url:1.0",
        some "scheme=http,ftp&x=1&scheme=file".toList, none⟩
      = .url ["http".toList, "ftp".toList, "file".toList]
    ∧ classify ['u'] ⟨"urn".toList, none, urnCap "capability:xpath:1.0", some [], none⟩ = .unknown ['u'] :=
  ⟨(classify_url_iff _ _ _).2 ⟨rfl, rfl, by simp only [urnCap_table], rfl, _, rfl, by decide +kernel⟩,
    classify_eq_unknown (fun _ _ _ _ _ h => nomatch h.2.2.2.1)
      (by simp only [urnCap_table, ne_eq, String.toList_inj, String.reduceEq, not_false_eq_true])⟩

end Caps
