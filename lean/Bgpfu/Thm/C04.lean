import Bgpfu.Lemmas.RunPhases
/-!
# C04 — commit only after every load succeeded; any failed step aborts the run

`run n fault` is `Updater::run` with `n` updates against a server that handles the request at
position `fault.1` (1-based, in sending order: 1 = open-configuration, 2–3 = get-config,
4 … 3+n = load-configuration, 4+n = commit-configuration, 5+n = close-configuration,
6+n = close-session) as `fault.2` says. Theorems hold for every `n`, every position, every kind.
-/
namespace Run

/-- **C04, success**: a run reports success iff every request of the run — open, both fetches,
every load, commit, close-db, close-session — was positively acknowledged. -/
theorem success_iff_all_acked (n : Nat) (fault : Option (Nat × Fault))
    (hfault : ∀ fp k, fault = some (fp, k) → 1 ≤ fp) :
    (run n fault).2 = true ↔ allAcked fault (6 + n) := by
  unfold run
  rw [runPhases_ok fault hfault (phases n) 0 [] (by intro p h1 h2; omega), totalLen_phases]
  simp

/-- **C04, any failed step aborts the run**: a fault at any position of the run makes it fail. -/
theorem fault_fails_run (n fp : Nat) (k : Fault) (h1 : 1 ≤ fp) (h2 : fp ≤ 6 + n)
    (hk : ¬ (fp = 6 + n ∧ k = .closeAfter)) : (run n (some (fp, k))).2 = false := by
  refine Bool.eq_false_iff.mpr fun hr => ?_
  have := (success_iff_all_acked n (some (fp, k)) (by rintro _ _ ⟨⟩; exact h1)).mp hr
  rcases (allAcked_some fp k _ h1).mp this with h | ⟨h, h'⟩
  · omega
  · exact hk ⟨h.symm, h'⟩

theorem commit_not_in_loads (n : Nat) : Req.commit ∉ (List.range n).map Req.load := by
  simp

/-- **C04, commit only after every load succeeded**: if the server ever receives
`commit-configuration`, then the open, both fetches and all `n` loads were positively acknowledged
before and the connection was still up — whatever the fault, including a failing load whose reply
arrives after later loads were already sent. -/
theorem commit_requires_all_loads (n : Nat) (fault : Option (Nat × Fault))
    (hfault : ∀ fp k, fault = some (fp, k) → 1 ≤ fp)
    (h : commitRequested (run n fault).1 = true) :
    allAcked fault (3 + n) ∧ sendFails (closesAt fault) (3 + n + 1) = false := by
  have e : 0 + totalLen [[Req.openDb], [.getRunning, .getCandidate], (List.range n).map .load] = 3 + n := by
    simp [totalLen]; omega
  rw [run, phases_split, runPhases_append, e] at h
  split at h
  next hok =>
    -- the first three phases succeeded: everything up to the last load was acknowledged
    have hacked := (runPhases_ok fault hfault _ 0 [] (by intro p h1 h2; omega)).mp hok
    rw [e] at hacked
    refine ⟨hacked, Bool.eq_false_iff.mpr fun hs => ?_⟩
    rw [tail_closed fault (3 + n) _ hs, prefix_no_commit] at h; cases h
  next =>
    -- they failed: the run ended there, and they contain no commit
    rw [prefix_no_commit] at h; cases h

/-- **C04, no commit after a fault**: a fault at or before the last load (rpc-error, malformed or
mis-numbered reply, close before or after the reply) means no commit is ever requested on that
session, and the run fails. -/
theorem no_commit_after_fault (n fp : Nat) (k : Fault) (h1 : 1 ≤ fp) (h2 : fp ≤ 3 + n) :
    commitRequested (run n (some (fp, k))).1 = false ∧ (run n (some (fp, k))).2 = false := by
  refine ⟨Bool.eq_false_iff.mpr fun hc => ?_, fault_fails_run n fp k h1 (by omega) (by omega)⟩
  obtain ⟨hacked, hsend⟩ := commit_requires_all_loads n (some (fp, k)) (by rintro _ _ ⟨⟩; exact h1) hc
  rcases (allAcked_some fp k _ h1).mp hacked with h | ⟨h, rfl⟩
  · omega
  · -- close-after on the last load: all loads acknowledged, but the commit cannot be sent
    simp [sendFails_closesAt, Fault.closes] at hsend
    omega

/-! ### Non-vacuity -/

example : (run 3 none).2 = true ∧ commitRequested (run 3 none).1 = true := by decide +kernel
/-- a failing first load whose error reply arrives after the later loads were sent: all three loads
reach the server, no commit -/
example : run 3 (some (4, .rpcError)) = ([.openDb, .getRunning, .getCandidate, .load 0, .load 1, .load 2], false) := by decide +kernel
example : (run 2 (some (8, .closeAfter))).2 = true := by decide +kernel
example : (run 2 (some (6, .wrongId))).1.getLast? = some .commit ∧ (run 2 (some (6, .wrongId))).2 = false := by decide +kernel

end Run
