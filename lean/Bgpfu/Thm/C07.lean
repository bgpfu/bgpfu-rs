import Bgpfu.Lemmas.Framing
/-!
# C07 — peer disconnect surfaces as an error, never as a hang or busy loop (transport loops)

The receive loops are structurally recursive on the list of read events: one loop iteration per
event, so "bounded time" is "bounded by the number of events the peer/OS produced" by construction.
What has to be proved is that end-of-stream is never ignored (`spin`) and never leaves the call
blocked (`pending`).  The session-level part (every pending reply future fails after the transport
failed) is `Session.close_fails_all` in `Bgpfu.Thm.C05`.
-/
namespace Framing

/-- **The client never spins**: no sequence of read results makes `recv` loop without blocking. -/
theorem recv_never_spins (buf : List Byte) (reads : List Read) (b : List Byte) :
    recv .fixed buf reads ≠ .spin b := by
  rw [recv_eq_spec]; exact specRecv_ne_spin reads buf b

/-- **The client never waits forever after a disconnect**: `recv` can only be left blocked if the
stream has neither ended nor failed. -/
theorem recv_pending_only_if_open (buf : List Byte) (reads : List Read) (b : List Byte)
    (h : recv .fixed buf reads = .pending b) : ∀ r ∈ reads, r.isData = true := by
  rw [recv_eq_spec] at h
  obtain ⟨cs, rfl, _⟩ := specRecv_pending reads buf b h
  simp [datas, Read.isData]

/-- **EOF / I/O error at any point** — idle, mid-message, mid-delimiter (any `buf`, any data read
before it): unless a complete message is already available, the call fails. -/
theorem eof_errors (buf : List Byte) (cs : List (List Byte)) (r : Read) (rest : List Read)
    (hr : r.isData = false) (hno : find marker (buf ++ cs.flatten) = none) :
    recv .fixed buf (datas cs ++ r :: rest) = .err (buf ++ cs.flatten) := by
  rw [recv_eq_spec, specRecv_datas_none cs _ buf hno, specRecv_end hno hr]

/-- after the failure the same holds for every later call: the residue has no delimiter, and the
next read is again EOF (sticky), so every subsequent `recv` fails as well. -/
theorem eof_errors_again (b : List Byte) (rest : List Read) (hno : find marker b = none) :
    recv .fixed b (.eof :: rest) = .err b := by
  simpa [datas] using eof_errors b [] .eof rest rfl (by simpa using hno)

/-- **The pump terminates on channel EOF and on channel closure**, after which `in_queue_tx` is dropped and every
`recv` returns `Err(DequeueMessage)`. `hpre` makes `e` the first such event; the proof does not need it: the pump
exits whatever came before. -/
theorem pump_exits_on_close (pre : List ChanEv) (e : ChanEv) (post : List ChanEv) (buf : List Byte)
    (hpre : ∀ x ∈ pre, x.ends = false) (he : e.ends = true) :
    (pump .fixed (pre ++ e :: post) buf).2.2 = .exited := by
  have _ := hpre  -- unused: the pump exits whatever came before
  simp [pump_status, he]

/-- whatever the channel delivers: the pump ends `running` (blocked in `select!`) or `exited`, never in the state of the
pinned pump in which `channel.wait()` returns `None` for ever and is ignored (`pump_spins_cex`) -/
theorem pump_never_spins (evs : List ChanEv) (buf : List Byte) :
    (pump .fixed evs buf).2.2 ≠ .spinning := by
  rw [pump_status]; split <;> simp

/-! ### Non-vacuity and the pinned snapshot -/

example : recv .fixed [] (datas [[60, 97]] ++ .eof :: []) = .err [60, 97] := by decide +kernel

/-- The pinned loop ignores a 0-byte read: at EOF it busy-loops (defect D3). -/
theorem recv_spins_cex : recv .pinned [60, 97] [.eof] = .spin [60, 97] := by decide +kernel

/-- The pinned pump ignores `channel.wait() == None`: it spins and receivers hang (defect D4). -/
theorem pump_spins_cex : (pump .pinned [.closed] []).2.2 = .spinning := by decide +kernel

end Framing
