import Bgpfu.Lemmas.ReaderLoops
/-!
# C14 — arbitrary bytes from the server produce an error, never a panic or a hang (reader part)

Every reader is a structurally recursive, total Lean function over the event list the tokenizer
produced — there is no `partial`, so "returns in bounded time" is "consumes at least one event per
iteration and never needs more iterations than there are events". The model's only artificial
failure is `Err.fuel`; the theorems show it is unreachable for **every** event list (well-formed
or not, including tokenizer errors and EOF at any position), i.e. each loop's iteration count is
bounded by the number of events. The byte-level robustness of the tokenizer itself (quick-xml)
is exercised by the `fuzz` correspondence op, not proved. The session-level clause (other
outstanding requests still get their replies) is `C05`'s `others_still_delivered`.
-/
namespace Xml

/-- Both parse phases of a reply terminate within `evs.length + 1` iterations each, on every event list. -/
theorem readMessage_total (c : RCfg) (k : ReplyKind) (evs : List Ev) : readMessage c k evs ≠ .err .fuel := by
  unfold readMessage
  split
  · rename_i e he
    intro h; simp only [Outcome.err.injEq] at h; subst h
    exact readPartial_total c _ none evs (Nat.lt_succ_self _) he
  · unfold phase2
    split
    · rename_i e he
      intro h; simp only [Outcome.err.injEq] at h; subst h
      exact fromXmlReply_total c k _ none evs (Nat.lt_succ_self _) he
    · split
      · rename_i b _ _; cases b <;> simp [Body.intoResult]
      · simp

/-- Session establishment terminates on every event list and every URI oracle. -/
theorem establish_total (c : RCfg) (adv : Bool) (o : UriOracle) (evs : List Ev) :
    establish c adv o evs ≠ .error .fuel := by
  unfold establish
  split
  · rename_i e he
    intro h; simp only [Except.error.injEq] at h; subst h
    exact fromXmlHello_total c o _ none evs (Nat.lt_succ_self _) he
  · split <;> simp

/-- The readers below the message level - the body of an `<rpc-reply>` for each reply type, an
`<rpc-error>`, the children of `<hello>` - consume at least one event when they succeed and never run out
of fuel when `fuel > evs.length` (the bounded-iteration invariant `Good`; the loops these call have it by
the same lemma, `readLoop_good`). -/
theorem reader_loops_bounded (c : RCfg) (k : ReplyKind) (o : UriOracle) (fuel : Nat) (t : Tag) (evs : List Ev) :
    Good evs fuel (readBody c k fuel t evs) ∧ Good evs fuel (readRpcError fuel t evs) ∧
    Good evs fuel (helloLoop c o fuel t.raw none none evs) :=
  ⟨readBody_good c k fuel t evs, errorLoop_good fuel t.raw {} evs, helloLoop_good c o fuel t.raw none none evs⟩

/-- **Garbage is not a value**: a message without a start tag `rpc-reply` in the base namespace anywhere in
it never resolves to a successful result. -/
theorem success_needs_rpc_reply (c : RCfg) (k : ReplyKind) (evs : List Ev)
    (h : readMessage c k evs = .ok ∨ ∃ s, readMessage c k evs = .data s) :
    ∃ t, Ev.start t ∈ evs ∧ t.is BASE "rpc-reply" = true := by
  unfold readMessage at h
  split at h
  · rcases h with h | ⟨s, h⟩ <;> cases h
  · unfold phase2 at h
    split at h
    · rcases h with h | ⟨s, h⟩ <;> cases h
    · rename_i id2 b hb
      exact fromXmlReply_needs_root c k _ evs _ hb

/-! ### Non-vacuity: garbage event lists -/

example : readMessage .fixed .empty [] = .err .xml := by decide +kernel
example : readMessage .fixed .data [.text "<<<", .error, .error, .eof] = .err .unexpected := by decide +kernel
example : readMessage .fixed .load
    [.start { ns := .unknown, lname := "rpc-reply", raw := "x:rpc-reply", attrs := [.bad], span := none }, .eof]
    = .err .unexpected := by decide +kernel

end Xml
