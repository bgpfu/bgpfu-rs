import Bgpfu.Lemmas.EvaluateAll
import Bgpfu.Lemmas.IrrExamples
/-!
# C17 — evaluations are independent of what was evaluated before on the connection

`evaluate cfg db fuel e faults : Ev → Outcome PSet × Ev × List Event` is the model of
`RpslEvaluator::evaluate` (lib/src/query.rs) over irrc's pipeline; `faults` are the `D`/`E`/`F`
answers the server injects during this evaluation (by query index or by query).  The theorems hold
for both `Cfg.pinned` (the pinned snapshot) and `Cfg.fixed` (/repo now), for every database, every expression
(supported or not), every fault set and every history.
-/
namespace Irr
open Rpsl

/-- **connection invariant**: after every `evaluate` — successful, failed with an IRRd error at any
query, panicked in an unsupported construct — the evaluator holds its connection again and no
response is outstanding on it.  (The hypothesis is `Irr.Clean`; the conclusion, here and in
`conn_invariant_seq`, is `Clean` of the final state written out.) -/
theorem conn_invariant (cfg : Cfg) (db : Db) (fuel : Nat) (e : Expr) (faults : Faults) (st : Ev)
    (hst : Clean st) :
    ∃ c, (evaluate cfg db fuel e faults st).2.1.conn = some c ∧ c.unread = [] :=
  (evaluate_inv cfg db fuel e faults st hst).1

/-- the invariant holds after every history on a new evaluator -/
theorem conn_invariant_seq (cfg : Cfg) (db : Db) (fuel : Nat) (h : List (Expr × Faults)) :
    ∃ c, (evalSeq cfg db fuel h Ev.fresh).2.conn = some c ∧ c.unread = [] :=
  evalSeq_clean cfg db fuel h Ev.fresh fresh_clean

/-- **history independence**: for every history `h` of evaluations (each with its own injected
faults) and every expression `e` with faults `f`, evaluating `e` after `h` on the same evaluator
gives the same outcome, the same queries and the same consumed responses as evaluating it on a fresh
evaluator. -/
theorem history_independent (cfg : Cfg) (db : Db) (fuel : Nat) (h : List (Expr × Faults))
    (e : Expr) (f : Faults) :
    evaluate cfg db fuel e f (evalSeq cfg db fuel h Ev.fresh).2 = evaluate cfg db fuel e f Ev.fresh :=
  evaluate_clean_eq_fresh cfg db fuel e f _ (evalSeq_clean cfg db fuel h Ev.fresh fresh_clean)

/-- **attribution**: every response the client consumes during an evaluation is attributed to the
query the server answered with it, and the consumed (query, response) pairs are exactly the sent
ones, in order, each once: the i-th response consumed is the response to the i-th query written.
(The conclusion is `Irr.EvOk` of the events written out.) -/
theorem responses_attributed (cfg : Cfg) (db : Db) (fuel : Nat) (e : Expr) (faults : Faults) (st : Ev)
    (hst : Clean st) :
    Attributed (evaluate cfg db fuel e faults st).2.2 ∧
      recvs (evaluate cfg db fuel e faults st).2.2 = sents (evaluate cfg db fuel e faults st).2.2 :=
  (evaluate_inv cfg db fuel e faults st hst).2

/-- the evaluator remains usable after a failed evaluation: whatever the outcome of `e₁`, the next
evaluation behaves as on a fresh evaluator (never `AcquireConnection`, never a stale response). -/
theorem usable_after_failure (cfg : Cfg) (db : Db) (fuel : Nat) (e₁ e₂ : Expr) (f₁ f₂ : Faults) :
    evaluate cfg db fuel e₂ f₂ (evaluate cfg db fuel e₁ f₁ Ev.fresh).2.1 =
      evaluate cfg db fuel e₂ f₂ Ev.fresh :=
  evaluate_clean_eq_fresh cfg db fuel e₂ f₂ _ (evaluate_inv cfg db fuel e₁ f₁ Ev.fresh fresh_clean).1

/-- Non-vacuity, on the cyclic database `exDb`.  The first evaluation fails (`F` injected for its first
query, the only one written); the second, on the same evaluator, has `D` injected for its third query
(`!6AS1`, so 2001:db8::/32 is missing) and succeeds: five queries written, all five answers consumed,
192.0.2.0/24 in the result -/
example :
    let r₁ := evaluate .pinned exDb 2 exAsA [(.idx 0, .other)] Ev.fresh
    let r₂ := evaluate .pinned exDb 2 exAsA [(.idx 2, .keyNotFound)] r₁.2.1
    isErr r₁.1 .other = true ∧ (sents r₁.2.2).length = 1 ∧
      okAt r₂.1 ⟨.v4, 0xc00002, 24⟩ = true ∧ okAt r₂.1 ⟨.v6, 0x20010db8, 32⟩ = false ∧
      (sents r₂.2.2).length = 5 ∧ (recvs r₂.2.2).length = 5 := by decide +kernel

end Irr
