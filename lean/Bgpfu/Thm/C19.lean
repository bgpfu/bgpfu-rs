import Bgpfu.Lemmas.Daemon
/-!
# C19 — the daemon retries with bounded back-off and stays responsive to signals

All statements are about the *timeline* `trace c p init evs` of the loop model
(`Bgpfu.Model.Daemon`): the events the loop observed, for **every** list of events `evs` the
environment may offer (every sequence of run outcomes and durations, every placement of signals),
every period `p` (milliseconds; `0 < p` where needed — `init_loop` takes a `NonZeroU64`) and every
position in the timeline.  In a timeline `tick t` is "a run starts at `t`", `runDone t ok` is
"that run ended at `t`", `hup/int/term t` is "the signal arm fired at `t`".  A *retry delay* is
`t₂ - t₁` for adjacent `runDone t₁ false, tick t₂`.

`Cfg.pinned` is the update rule of task.rs:174 as it is in the pinned tree
(`min(period, 2·backoff)`), `Cfg.fixed` the repaired rule (`min(max(period, 60 s), 2·backoff)`).
Theorems that hold for both are stated for an arbitrary `c`.
-/
namespace Daemon

/-- **Master statement.** The delay after a failed run is the back-off sequence at the number of
consecutive failures before it (`backoffAt c p 0 = 60 s`, `backoffAt c p (n+1) = backoffNext …`). -/
theorem retry_delay_eq (c : Cfg) (p : Nat) (evs pre post : List Ev) (t₁ t₂ : Nat)
    (h : trace c p init evs = pre ++ .runDone t₁ false :: .tick t₂ :: post) :
    t₂ = t₁ + backoffAt c p (streak pre) :=
  next_run_at c p evs pre post t₁ t₂ false h

/-- **The first retry delay is one minute**: at start, and again after every successful run (no
failed run since — `pre` may contain anything before the last success, and SIGHUP-triggered runs). -/
theorem first_retry_is_minute (c : Cfg) (p : Nat) (evs pre post : List Ev) (t₁ t₂ : Nat)
    (h : trace c p init evs = pre ++ .runDone t₁ false :: .tick t₂ :: post)
    (hfirst : streak pre = 0) :
    t₂ = t₁ + minBackoff := by
  have := retry_delay_eq c p evs pre post t₁ t₂ h
  rw [hfirst] at this
  simpa [backoffAt] using this

/-- `streak pre = 0` holds when no run has failed yet … -/
theorem streak_zero_at_start (pre : List Ev) (h : ∀ t, Ev.runDone t false ∉ pre) : streak pre = 0 :=
  streakFrom_zero pre h

/-- … and when no run has failed since the last successful one. -/
theorem streak_zero_after_success (pre₀ mid : List Ev) (t₀ : Nat) (h : ∀ t, Ev.runDone t false ∉ mid) :
    streak (pre₀ ++ .runDone t₀ true :: mid) = 0 := by
  simp only [streak, streakFrom_append, streakFrom]
  exact streakFrom_zero mid h

/-- **Every retry delay is at most `max 60 s period`** … -/
theorem delay_le_max (c : Cfg) (p : Nat) (evs pre post : List Ev) (t₁ t₂ : Nat)
    (h : trace c p init evs = pre ++ .runDone t₁ false :: .tick t₂ :: post) :
    t₂ - t₁ ≤ max minBackoff p := by
  rw [retry_delay_eq c p evs pre post t₁ t₂ h, Nat.add_sub_cancel_left]
  exact (backoffAt_bounds c p (streak pre)).2

/-- … **and at least `min 60 s period`, hence positive**: after a run (failed or not) the next run
never starts without delay. -/
theorem delay_pos (c : Cfg) (p : Nat) (hp : 0 < p) (evs pre post : List Ev) (t₁ t₂ : Nat) (ok : Bool)
    (h : trace c p init evs = pre ++ .runDone t₁ ok :: .tick t₂ :: post) :
    min minBackoff p ≤ t₂ - t₁ ∧ t₁ < t₂ := by
  have hge := delay_ge c p (streak pre) ok
  rw [next_run_at c p evs pre post t₁ t₂ ok h, Nat.add_sub_cancel_left]
  exact ⟨hge, Nat.lt_add_of_pos_right (Nat.lt_of_lt_of_le (Nat.lt_min.2 ⟨minBackoff_pos, hp⟩) hge)⟩

/-- **Runs never follow each other without delay**: a run start in the timeline is the very first
event (`first_run_immediate`), or directly follows the end of the previous run by at least
`min 60 s period > 0`, or directly follows a SIGHUP observed at that same instant. -/
theorem run_needs_delay_or_hup (c : Cfg) (p : Nat) (evs pre post : List Ev) (e : Ev) (t : Nat)
    (h : trace c p init evs = pre ++ e :: .tick t :: post) :
    (∃ t₁ ok, e = .runDone t₁ ok ∧ t₁ + min minBackoff p ≤ t) ∨ e = .hup t := by
  obtain ⟨-, -, hb⟩ := trace_pair c p init evs pre _ _ post h
  cases e with
  | tick t' | int t' | term t' => accepts_prop at hb; cases hb.1
  | hup t' =>
    accepts_prop at hb
    right; rw [hb.2.1]
  | runDone t₁ ok =>
    exact .inl ⟨t₁, ok, rfl,
      next_run_at c p evs pre post t₁ t ok h ▸ Nat.add_le_add_left (delay_ge c p (streak pre) ok) t₁⟩

/-- the first run starts at once (the first `interval.tick()` completes immediately) -/
theorem first_run_immediate (c : Cfg) (p : Nat) (evs post : List Ev) (t : Nat)
    (h : trace c p init evs = .tick t :: post) : t = 0 := by
  have ht := timeline_trace c p init evs
  rw [h] at ht
  simpa [accepts, init] using ht.1

/-- runs do not overlap and no signal arm fires while a run is awaited: the event after a run
start is the end of that run -/
theorem run_is_awaited (c : Cfg) (p : Nat) (evs pre post : List Ev) (e : Ev) (t : Nat)
    (h : trace c p init evs = pre ++ .tick t :: e :: post) :
    ∃ t' ok, e = .runDone t' ok ∧ t ≤ t' := by
  obtain ⟨-, -, hb⟩ := trace_pair c p init evs pre _ _ post h
  cases e with
  | runDone t' ok =>
    accepts_prop at hb
    exact ⟨t', ok, rfl, hb.2⟩
  | _ => accepts_prop at hb; cases hb.1

/-- **A successful run restores the normal period** … -/
theorem success_restores (c : Cfg) (p : Nat) (evs pre post : List Ev) (t₁ t₂ : Nat)
    (h : trace c p init evs = pre ++ .runDone t₁ true :: .tick t₂ :: post) :
    t₂ = t₁ + p :=
  next_run_at c p evs pre post t₁ t₂ true h

/-- … **and the back-off**: the first failure after a success (whatever happened before it, and
with any number of SIGHUP-triggered successful runs in between) is retried after one minute again. -/
theorem success_resets_backoff (c : Cfg) (p : Nat) (evs pre₀ mid post : List Ev) (t₀ t₁ t₂ : Nat)
    (h : trace c p init evs = (pre₀ ++ .runDone t₀ true :: mid) ++ .runDone t₁ false :: .tick t₂ :: post)
    (hmid : ∀ t, Ev.runDone t false ∉ mid) :
    t₂ = t₁ + minBackoff :=
  first_retry_is_minute c p evs _ post t₁ t₂ h (streak_zero_after_success pre₀ mid t₀ hmid)

/-- **Along consecutive failures the retry delay never shrinks** (repaired rule, every period):
for two retry delays in the timeline with no successful run in between — SIGHUP-triggered failed
runs in between are allowed — the later one is at least the earlier one. -/
theorem delay_monotone (p : Nat) (evs pre mid post : List Ev) (t₁ t₂ t₃ t₄ : Nat)
    (h : trace .fixed p init evs
      = pre ++ .runDone t₁ false :: .tick t₂ :: (mid ++ .runDone t₃ false :: .tick t₄ :: post))
    (hmid : ∀ t, Ev.runDone t true ∉ mid) :
    t₂ - t₁ ≤ t₄ - t₃ := by
  rw [retry_delay_eq .fixed p evs (pre ++ .runDone t₁ false :: .tick t₂ :: mid) post t₃ t₄ (by simpa using h),
    retry_delay_eq .fixed p evs pre _ t₁ t₂ h, Nat.add_sub_cancel_left, Nat.add_sub_cancel_left]
  exact backoffAt_fixed_mono p (Nat.le_of_succ_le (streak_succ_le pre mid t₁ _ hmid))

/-- **… and grows strictly until it has reached the cap `max 60 s period`** (repaired rule). -/
theorem delay_grows (p : Nat) (evs pre mid post : List Ev) (t₁ t₂ t₃ t₄ : Nat)
    (h : trace .fixed p init evs
      = pre ++ .runDone t₁ false :: .tick t₂ :: (mid ++ .runDone t₃ false :: .tick t₄ :: post))
    (hmid : ∀ t, Ev.runDone t true ∉ mid)
    (hcap : t₂ - t₁ < max p minBackoff) :
    t₂ - t₁ < t₄ - t₃ := by
  rw [retry_delay_eq .fixed p evs (pre ++ .runDone t₁ false :: .tick t₂ :: mid) post t₃ t₄ (by simpa using h),
    Nat.add_sub_cancel_left]
  rw [retry_delay_eq .fixed p evs pre _ t₁ t₂ h, Nat.add_sub_cancel_left] at hcap ⊢
  exact Nat.lt_of_lt_of_le (backoffAt_fixed_strict p (streak pre) hcap)
    (backoffAt_fixed_mono p (streak_succ_le pre mid t₁ _ hmid))

/-- closed form (repaired rule): the `n+1`-st consecutive failure is retried after
`min (max period 60 s) (60 s · 2ⁿ)`; in particular never sooner than after one minute. -/
theorem delay_closed_form (p : Nat) (evs pre post : List Ev) (t₁ t₂ : Nat)
    (h : trace .fixed p init evs = pre ++ .runDone t₁ false :: .tick t₂ :: post) :
    t₂ - t₁ = min (max p minBackoff) (minBackoff * 2 ^ streak pre) ∧ minBackoff ≤ t₂ - t₁ := by
  rw [retry_delay_eq .fixed p evs pre post t₁ t₂ h, Nat.add_sub_cancel_left]
  exact ⟨backoffAt_fixed_closed p (streak pre), backoffAt_fixed_ge_min p (streak pre)⟩

/-- **SIGHUP triggers an immediate run** (1): whenever the loop is waiting — at any instant `t`
between the last event and the timer's deadline — a SIGHUP is observed and the run it triggers
starts at that very instant. -/
theorem hup_immediate (c : Cfg) (p : Nat) (evs : List Ev) (t : Nat)
    (hw : (run c p init evs).phase = .waiting)
    (h1 : (run c p init evs).now ≤ t) (h2 : t ≤ (run c p init evs).deadline) :
    trace c p init (evs ++ [.hup t, .tick t]) = trace c p init evs ++ [.hup t, .tick t] := by
  rw [trace_append]
  congr 1
  simp [trace, accepts, next, hw, h1, h2]

/-- **SIGHUP triggers an immediate run** (2): nothing else can come first — whatever the loop
observes next after a SIGHUP at `t` happens at `t`, and it is the run start or another signal. -/
theorem hup_then_run (c : Cfg) (p : Nat) (evs pre post : List Ev) (e : Ev) (t : Nat)
    (h : trace c p init evs = pre ++ .hup t :: e :: post) :
    e = .tick t ∨ e = .hup t ∨ e = .int t ∨ e = .term t := by
  obtain ⟨-, ha, hb⟩ := trace_pair c p init evs pre _ _ post h
  accepts_prop at ha
  cases e with
  | runDone t' ok => accepts_prop at hb; simp [ha.1] at hb
  | tick t' => accepts_prop at hb; simp [hb.2.1]
  | hup t' | int t' | term t' =>
    accepts_prop at hb
    have : t' = t := Nat.le_antisymm hb.2.2 hb.2.1
    simp [this]

/-- **SIGINT / SIGTERM while waiting end the loop** (1): whenever the loop is waiting, the signal
is observed at the instant it arrives, the loop is then in its exited state, and *nothing* the
environment offers afterwards (`more`) is observed — in particular no further run. -/
theorem int_term_exit (c : Cfg) (p : Nat) (evs more : List Ev) (t : Nat) (e : Ev)
    (he : e = .int t ∨ e = .term t)
    (hw : (run c p init evs).phase = .waiting)
    (h1 : (run c p init evs).now ≤ t) (h2 : t ≤ (run c p init evs).deadline) :
    trace c p init (evs ++ e :: more) = trace c p init evs ++ [e] ∧
    (run c p init (evs ++ e :: more)).phase = .exited := by
  have hacc : accepts (run c p init evs) e = true := by
    rcases he with rfl | rfl <;> simp [accepts, hw, h1, h2]
  have hph := next_exit_phase c p (run c p init evs) he
  have hx := exited_stuck c p hph more
  rw [trace_append, run_append, run_cons_of_accepts c p more hacc, hx.2]
  refine ⟨?_, hph⟩
  simp only [trace, hacc, if_true, hx.1]

/-- **SIGINT / SIGTERM end the loop** (2): an exit signal is the last event of every timeline that
contains one. -/
theorem exit_is_last (c : Cfg) (p : Nat) (evs pre post : List Ev) (t : Nat) (e : Ev)
    (he : e = .int t ∨ e = .term t)
    (h : trace c p init evs = pre ++ e :: post) : post = [] := by
  cases post with
  | nil => rfl
  | cons b post' =>
    obtain ⟨-, -, hb⟩ := trace_pair c p init evs pre _ _ post' h
    rw [accepts_exited (next_exit_phase c p _ he)] at hb
    cases hb

/-- The model op of the correspondence run prints a timeline: every event `schedule` emits is one
the loop accepts, so all theorems above apply verbatim to what is compared with the implementation. -/
theorem schedule_is_timeline (c : Cfg) (p hz fuel : Nat) (s : State)
    (runs : List (Nat × Bool)) (sigs : List (Nat × Sig)) :
    trace c p s (schedule c p hz fuel s runs sigs) = schedule c p hz fuel s runs sigs := by
  induction fuel generalizing s runs sigs with
  | zero => simp [schedule, trace]
  | succ n ih =>
    simp only [schedule]
    split
    · simp [trace]
    · split
      · simp [trace]
      · split
        · rename_i hacc
          simp [trace, hacc, ih]
        · exact ih _ _ _

/-! ### Non-vacuity and the pinned rule -/

/-- period 300 s, five failures in a row: retried after 60, 120, 240, 300, 300 s -/
example : trace .fixed 300000 init
    [.tick 0, .runDone 1000 false, .tick 61000, .runDone 61000 false, .tick 181000,
     .runDone 190000 false, .tick 430000, .runDone 430000 false, .tick 730000,
     .runDone 730000 false, .tick 1030000]
  = [.tick 0, .runDone 1000 false, .tick 61000, .runDone 61000 false, .tick 181000,
     .runDone 190000 false, .tick 430000, .runDone 430000 false, .tick 730000,
     .runDone 730000 false, .tick 1030000] := by decide +kernel

/-- a success restores period and back-off; events the loop cannot observe (a tick before the
deadline, a signal during a run) are not part of the timeline -/
example : trace .fixed 300000 init
    [.tick 0, .hup 5, .runDone 10 false, .tick 500, .tick 60010, .runDone 60010 true, .tick 360010,
     .runDone 360010 false, .tick 420010]
  = [.tick 0, .runDone 10 false, .tick 60010, .runDone 60010 true, .tick 360010,
     .runDone 360010 false, .tick 420010] := by decide +kernel

/-- SIGHUP in the middle of a wait starts a run there; SIGTERM in the next wait ends the loop -/
example : trace .fixed 300000 init
    [.tick 0, .runDone 0 false, .hup 30137, .tick 30137, .runDone 30137 false, .term 100001, .tick 150137]
  = [.tick 0, .runDone 0 false, .hup 30137, .tick 30137, .runDone 30137 false, .term 100001] := by decide +kernel

/-- the hypotheses of `hup_immediate` / `int_term_exit` are satisfiable -/
example : (run .fixed 300000 init [.tick 0, .runDone 0 false]).phase = .waiting
    ∧ (run .fixed 300000 init [.tick 0, .runDone 0 false]).now ≤ 30137
    ∧ 30137 ≤ (run .fixed 300000 init [.tick 0, .runDone 0 false]).deadline := by decide +kernel

/-- period 10 s under the repaired rule: 60, 60, 60 s -/
example : starts (trace .fixed 10000 init
    [.tick 0, .runDone 0 false, .tick 60000, .runDone 60000 false, .tick 70000, .tick 120000,
     .runDone 120000 false, .tick 180000])
  = [0, 60000, 120000, 180000] := by decide +kernel

/-- `schedule` on a script: period 120 s, SIGHUP at 30.137 s, SIGINT at 200.333 s -/
example : schedule .fixed 120000 600500 40 init [] [(30137, .hup), (200333, .int)]
  = [.tick 0, .runDone 0 false, .hup 30137, .tick 30137, .runDone 30137 false, .tick 150137,
     .runDone 150137 false, .int 200333] := by decide +kernel

/-- **D12**: with the pinned rule and a period of 10 s the second retry delay (10 s) is *smaller*
than the first (60 s): `delay_monotone` is false for `Cfg.pinned`. -/
theorem delay_shrinks_cex :
    ∃ evs pre mid post t₁ t₂ t₃ t₄,
      trace .pinned 10000 init evs
        = pre ++ .runDone t₁ false :: .tick t₂ :: (mid ++ .runDone t₃ false :: .tick t₄ :: post)
      ∧ (∀ t, Ev.runDone t true ∉ mid) ∧ t₄ - t₃ < t₂ - t₁ :=
  ⟨[.tick 0, .runDone 0 false, .tick 60000, .runDone 60000 false, .tick 70000],
   [.tick 0], [], [], 0, 60000, 60000, 70000, by decide +kernel, by simp, by decide +kernel⟩

/-- the same history under the pinned rule as a back-off sequence: 60 s, then 10 s for ever -/
theorem backoff_pinned_small_period_cex :
    backoffAt .pinned 10000 0 = 60000 ∧ ∀ n, backoffAt .pinned 10000 (n + 1) = 10000 := by
  refine ⟨rfl, fun n => ?_⟩
  rw [backoffAt_closed, cap_pinned]
  exact Nat.min_eq_left (Nat.le_trans (by decide) (Nat.le_mul_of_pos_right _ (Nat.two_pow_pos _)))

/-! ### how a run ends: a panic is a failed run

`Loop::start` runs the updater job in a task of its own and joins it through `handle_task`
(task.rs): `Ok(Ok(()))` is a success; an `Err` returned by the job AND a `JoinError` (the task
panicked, in any part of the run — connection set-up, compare, load) are both a failed run. So the
event a run contributes to the timeline is `runDone t false` in both cases, and every theorem above
about failed runs is about panicking runs as well. (Awaiting the job in place instead would let the
panic unwind through the loop: no retry, no further run, no signal handling — the daemon is gone.)
The correspondence run scripts panicking runs (`x=` indices of the daemon op) next to failing ones. -/

inductive JobEnd where
  | ok | err | panicked
  deriving DecidableEq, Repr

/-- `handle_task(tokio::spawn(job))` -/
def JobEnd.success : JobEnd → Bool
  | .ok => true
  | _ => false

def doneEv (t : Nat) (e : JobEnd) : Ev := .runDone t e.success

/-- Holds by the definition of `doneEv` above: that `handle_task` treats a `JoinError` like an `Err`
(task.rs) is the modelling ASSUMPTION about how a run ends, written down so that the theorems about
`runDone t false` read on runs that panic; nothing is derived here. -/
theorem panic_is_a_failed_run (t : Nat) : doneEv t .panicked = doneEv t .err := rfl

/-- `retry_delay_eq` with `doneEv t₁ .panicked` unfolded: under that assumption the retry after a run
that panicked comes after exactly the back-off delay, like after any failure -/
theorem retry_after_panic (c : Cfg) (p : Nat) (evs pre post : List Ev) (t₁ t₂ : Nat)
    (h : trace c p init evs = pre ++ doneEv t₁ .panicked :: .tick t₂ :: post) :
    t₂ = t₁ + backoffAt c p (streak pre) :=
  retry_delay_eq c p evs pre post t₁ t₂ h

/-- a daemon whose first two runs panic: retried 60 s and 120 s after they end -/
example :
    trace .fixed 3600000 init
      [.tick 0, doneEv 5 .panicked, .tick 60005, doneEv 60010 .panicked, .tick 180010]
      = [.tick 0, .runDone 5 false, .tick 60005, .runDone 60010 false, .tick 180010] := by decide +kernel

end Daemon
