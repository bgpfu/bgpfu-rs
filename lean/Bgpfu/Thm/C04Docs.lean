import Bgpfu.Lemmas.RunDocs
import Bgpfu.Thm.C08
/-!
# C04 ∘ C08 — what "positively acknowledged" means on the wire

`Thm/C04.lean` treats the server's answer to each request as acknowledged / not acknowledged.
Here the answer is a reply *document* (an event list), and "acknowledged" is what the client's reply
reader (`Xml.readMessage`, both parse phases + `into_result`, the subject of C08) makes of it. The run
program is the same phase program (`Run.phases`), without connection faults.

Result: whatever documents the server sends, commit is requested only if every earlier request —
in particular every load — was answered by a document the reader accepts; and a load answered by
ANY document of the reply grammar that carries an `<rpc-error>` of severity error anywhere the grammar
allows one (directly under `<rpc-reply>` or inside `<load-configuration-results>`, before or after
warnings, with or without `<ok/>`) means: no commit, and the run fails.
-/
namespace Run
open Xml

theorem loads_no_commit (n : Nat) : ((List.range n).map Req.load).contains Req.commit = false := by
  simp

/-- **commit only after every earlier request was answered by a document the reader accepts** —
for every number of loads and every assignment of reply documents (any event lists at all). -/
theorem commit_requires_accepted_replies (n : Nat) (docs : Nat → List Ev)
    (h : (runDocs n docs).1.contains .commit = true) :
    ackDoc .openDb (docs 1) = true ∧ ackDoc .getRunning (docs 2) = true ∧ ackDoc .getCandidate (docs 3) = true ∧
    ∀ i, i < n → ackDoc (.load i) (docs (4 + i)) = true := by
  rw [runDocs, phases_split] at h
  -- the commit is not in the first three phases, so these succeeded
  have hok := runDocsPhases_mem_later docs _ _ 0 [] .commit (List.contains_iff_mem.mp h) (by simp) (by simp)
  simp only [runDocsPhases_ok_cons, ackAll, Bool.and_eq_true, Bool.and_true] at hok
  obtain ⟨h1, ⟨h2, h2'⟩, h3, _⟩ := hok
  refine ⟨h1, h2, h2', fun i hi => ?_⟩
  have := (ackAll_iff docs _ _).mp h3 i (by simpa using hi)
  simpa [Nat.add_comm, Nat.add_left_comm, Nat.add_assoc] using this

/-- a run that returns Ok went through the commit phase -/
theorem ok_run_commits (n : Nat) (docs : Nat → List Ev) (h : (runDocs n docs).2 = true) :
    (runDocs n docs).1.contains .commit = true := by
  rw [runDocs] at h ⊢
  rw [runDocsPhases_ok_trace docs _ 0 [] h]
  simp [phases]

/-- a load answered by a document the reader does not accept: no commit, and the run fails -/
theorem unaccepted_load_fails_run (n : Nat) (docs : Nat → List Ev) (i : Nat) (hi : i < n)
    (hbad : ackDoc (.load i) (docs (4 + i)) = false) :
    (runDocs n docs).1.contains .commit = false ∧ (runDocs n docs).2 = false := by
  have hc : (runDocs n docs).1.contains .commit = false := Bool.eq_false_iff.mpr fun hcc => by
    have := (commit_requires_accepted_replies n docs hcc).2.2.2 i hi
    rw [hbad] at this; cases this
  exact ⟨hc, Bool.eq_false_iff.mpr fun hr => by rw [ok_run_commits n docs hr] at hc; cases hc⟩

/-- **a load answered with an error is never followed by a commit** — for every document of the
reply grammar (any number / order / severity of rpc-errors, `<ok/>` present or not, comments,
`<load-configuration-results>` with its own children) that carries an rpc-error of severity
error, at any load position, whatever all other replies are. -/
theorem no_commit_after_error_reply (n : Nat) (docs : Nat → List Ev) (i : Nat) (hi : i < n)
    (raw idAttr : String) (extra : List AttrItem) (cs : List Top) (id : Nat) (g : GoodDoc raw idAttr cs id)
    (hdoc : docs (4 + i) = replyDoc raw idAttr extra cs) (herr : errorSeverityInReply cs = true) :
    (runDocs n docs).1.contains .commit = false ∧ (runDocs n docs).2 = false := by
  refine unaccepted_load_fails_run n docs i hi (Bool.eq_false_iff.mpr fun ha => ?_)
  rw [ackDoc, hdoc] at ha
  have := success_no_error_severity (Req.load i).kind raw idAttr extra cs id g ha
  rw [herr] at this; cases this

/-! ### non-vacuity -/

/-- the documents of a fault-free run with one load -/
def okDocs : Nat → List Ev
  | 1 => replyDoc "rpc-reply" "1" [] []
  | 2 => replyDoc "rpc-reply" "2" [] [.data "<configuration/>" [.empty { ns := .bound XNM, lname := "configuration", raw := "configuration", attrs := [], span := none }]]
  | 3 => replyDoc "rpc-reply" "3" [] [.data "<configuration/>" [.empty { ns := .bound XNM, lname := "configuration", raw := "configuration", attrs := [], span := none }]]
  | 4 => replyDoc "rpc-reply" "4" [] [.results "load-configuration-results" [.ok]]
  | 5 => replyDoc "rpc-reply" "5" [] [.ok]
  | 6 => replyDoc "rpc-reply" "6" [] []
  | _ => replyDoc "rpc-reply" "7" [] [.ok]

example : runDocs 1 okDocs = ([.openDb, .getRunning, .getCandidate, .load 0, .commit, .closeDb, .closeSession], true) := by decide +kernel

/-- the same run, the load answered with error, warning, `<ok/>`: no commit, run fails -/
example : runDocs 1 (fun p => if p = 4 then
      replyDoc "rpc-reply" "4" [] [.results "load-configuration-results" [.err exErr, .err exWarn, .ok]] else okDocs p)
    = ([.openDb, .getRunning, .getCandidate, .load 0], false) := by decide +kernel

end Run
