import Bgpfu.Lemmas.EvaluateAll
import Bgpfu.Lemmas.IrrExamples
/-!
# C15 (evaluator part) — one unevaluable policy does not prevent the others from being evaluated

`evaluateAll cfg db fuel cands` models `Policies<Candidate>::evaluate` (junos-agent/src/policies/
eval.rs): all candidates on one evaluator, in the (arbitrary) order of the map.  A candidate is
`(name, expression, faults the server injects while it is evaluated)`; `solo` is its outcome when
evaluated alone on a fresh evaluator; `candOut` turns an outcome into `Evaluated.ranges`.
`Cfg.pinned` is the pinned snapshot; `Cfg.fixed` is /repo now, with the two repairs of D11 (59ca09e: the
PeerAS resolver returns an error; e397bf1: a panic inside one candidate's evaluation is caught and
fails that candidate).
The load/commit part of C15 is in the agent-run model, not here.
-/
namespace Irr
open Rpsl

/-- **isolation**: in every list of candidates — hence in every evaluation order — and on every
evaluator that is between evaluations, a run that completes gives every candidate exactly the
result it has when evaluated alone.  Rests on C17's connection invariant. -/
theorem eval_isolated (cfg : Cfg) (db : Db) (fuel : Nat) (l : List (String × Expr × Faults)) (st : Ev)
    (hst : Clean st) (outs : List (String × Option Parts))
    (h : (evaluateAll cfg db fuel l st).1 = .done outs) :
    outs = l.map fun c => (c.1, candOut (solo cfg db fuel c)) :=
  ((evaluateAll_done_iff cfg db fuel l st hst outs).mp h).2

/-- **errors do not abort** (both configurations): if no candidate panics or diverges on its own,
the run completes, candidates whose evaluation fails (IRRd error, unknown as-set, …) get
`ranges = None`, and all the others get their own result. -/
theorem err_does_not_abort (cfg : Cfg) (db : Db) (fuel : Nat) (l : List (String × Expr × Faults))
    (st : Ev) (hst : Clean st)
    (hp : ∀ c ∈ l, ∀ k, solo cfg db fuel c ≠ .panic k) (hd : ∀ c ∈ l, solo cfg db fuel c ≠ .diverge) :
    (evaluateAll cfg db fuel l st).1 = .done (l.map fun c => (c.1, candOut (solo cfg db fuel c))) :=
  (evaluateAll_done_iff cfg db fuel l st hst _).mpr
    ⟨fun c hc => ⟨hd c hc, fun k hk => absurd hk (hp c hc k)⟩, rfl⟩

/-- **unsupported constructs do not abort** (`Cfg.fixed`): no expression — PeerAS, AS-path
regexps and attribute matches included — makes the run panic; a candidate using one gets
`ranges = None` and every other candidate its own result.  (`diverge` = unbounded filter-set
recursion, excluded: cyclic filter-sets overflow the stack in either configuration.) -/
theorem unsupported_does_not_abort (db : Db) (fuel : Nat) (l : List (String × Expr × Faults))
    (st : Ev) (hst : Clean st) (hd : ∀ c ∈ l, solo .fixed db fuel c ≠ .diverge) :
    (evaluateAll .fixed db fuel l st).1 = .done (l.map fun c => (c.1, candOut (solo .fixed db fuel c))) :=
  (evaluateAll_done_iff .fixed db fuel l st hst _).mpr ⟨fun c hc => ⟨hd c hc, fun _ _ => rfl⟩, rfl⟩

/-- under `Cfg.fixed` the evaluator never panics on PeerAS at all: it reports an error -/
theorem peeras_is_error_fixed (db : Db) (fuel : Nat) (op : RangeOp) (st : Ev) :
    (evaluate .fixed db fuel (.prefixSet (.named .peerAs) op) [] st).1 = .err .unsupported := by
  cases fuel <;> rfl

/-- the evaluator is left clean by a run, aborted or not (so a caught panic cannot poison it) -/
theorem run_leaves_evaluator_clean (cfg : Cfg) (db : Db) (fuel : Nat) (l : List (String × Expr × Faults))
    (st : Ev) (hst : Clean st) : Clean (evaluateAll cfg db fuel l st).2.1 :=
  (evaluateAll_spec cfg db fuel l st hst).2

/-! ### the pinned snapshot: one PeerAS / AS-path / attribute-match policy aborts the whole run -/

def RunOutcome.aborted : RunOutcome → Option PanicKind
  | .abort k => some k
  | _ => none

def RunOutcome.names : RunOutcome → List String
  | .done outs => outs.map (·.1)
  | _ => []

/-- defect D11: with `p0 = AS-A` (evaluable) and `p1 = PeerAS`, `Policies::evaluate` panics in the
resolver (`unimplemented!()`), in either order; no candidate gets a result -/
theorem peeras_panics_cex :
    (evaluateAll .pinned exDb 2 [("p0", exAsA, []), ("p1", .prefixSet (.named .peerAs) .none, [])] Ev.fresh).1.aborted
        = some .peerAs ∧
    (evaluateAll .pinned exDb 2 [("p1", .prefixSet (.named .peerAs) .none, []), ("p0", exAsA, [])] Ev.fresh).1.aborted
        = some .peerAs := by decide +kernel

/-- same for an AS-path regular expression and an attribute match (`todo!()` in the rpsl crate) -/
theorem aspath_attr_panic_cex :
    (evaluateAll .pinned exDb 2 [("p0", exAsA, []), ("p1", .and exAsA .asPath, [])] Ev.fresh).1.aborted
        = some .asPath ∧
    (evaluateAll .pinned exDb 2 [("p0", exAsA, []), ("p1", .attrMatch, [])] Ev.fresh).1.aborted
        = some .attrMatch := by decide +kernel

/-! ### Non-vacuity -/

/-- with the repairs the same policy sets complete, `p0` has its result and `p1` has none -/
example :
    (evaluateAll .fixed exDb 2 [("p0", exAsA, []), ("p1", .prefixSet (.named .peerAs) .none, []),
        ("p2", .asPath, []), ("p3", exAsA, [(.query (.asSetMembers "AS-A"), .keyNotFound)])] Ev.fresh).1.names
      = ["p0", "p1", "p2", "p3"] := by decide +kernel

example :
    (match (evaluateAll .fixed exDb 2 [("p1", .asPath, []), ("p0", exAsA, [])] Ev.fresh).1 with
      | .done [(_, none), (_, some ps)] => ps.1 10 8 && ps.2 0x20010db8 32 && !ps.1 11 8
      | _ => false) = true := by decide +kernel

end Irr
