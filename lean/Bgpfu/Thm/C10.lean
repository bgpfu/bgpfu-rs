import Bgpfu.Lemmas.Writers
import Bgpfu.Thm.C06
/-!
# C10 — serialised requests are well-formed, delimiter-safe and carry values unchanged

The property theorems, and two notions of their statements: `sentChunks` (what a sequence of `send` calls puts on the
socket) and `sendChunked` (a variant of the delimiter guard, for its counter-example). The predicates the statements are
written in (`MF`, `namesOk`, `WFC`, `WFDoc`, `Sub`, `rawParams`, `Escaped`) stand at the head of
`Bgpfu.Lemmas.Writers`, the lemmas after them; the model is `Bgpfu.Model.Writers`.

Values are byte strings (`List Nat`; every Rust `String` is one, non-ASCII text = bytes ≥ 128).
`ws` below is `Cfg.wsRefs`.

**Which variant is which.** `Cfg` has one switch per defect. `Cfg.pinned` (all off) is the pinned snapshot, `Cfg.fixed`
(all on) has the four repairs. /repo now is neither: it has `payloadEsc`, `guard` and `charGuard` (commits b609769,
8b33dd9, 49bb017) and not `wsRefs` (D17 is open), i.e. `{ Cfg.fixed with wsRefs := false }`; that is the variant the
correspondence run is registered with (`cfg=c1011`, harness/src/ser.rs) and compares byte for byte.
  * Theorems stated for every `c : Cfg` or every `ws` speak of /repo now among the others; `send_guard_framed`,
    `sent_chars_ok` and `sent_then_received_guard` apply to it through their hypotheses `c.guard` / `c.charGuard`.
  * `attr_ws_pinned_cex` and `text_cr_pinned_cex` (`ws = false`) hold of /repo now as of the snapshot.
  * `text_payload_raw_cex`, `json_payload_raw_cex`, and the `.pinned` halves of `fragment_marker_cex` and
    `control_char_sent_cex` are about the snapshot only.
  * `values_recovered_fixed`, `load_text_fixed` and `load_json_fixed` are about `.fixed` (they render with `ws = true`).
    For /repo now, well-formedness and framing of those requests are `request_no_raw` (their `rawParams` are empty once
    `payloadEsc` holds) and recovery of the payload is `values_recovered_text`, for payloads without CR.

**Value domain.** A conforming XML 1.0 parser (`parseText`, `parseAttr`) first normalises line
ends (§2.11: CR LF and CR become LF) and, in attribute values, turns a literal TAB/LF/CR into a
space (§3.3.3). quick-xml's `escape` leaves these three bytes alone, so
  * text leaves are recovered for every value **without CR**,
  * attribute leaves are recovered for every value **without TAB, LF, CR**;
for the remaining values recovery fails (`text_cr_pinned_cex`, `attr_ws_pinned_cex`; the XPath
`select` expression is such a leaf and multi-line XPath is ordinary input, so this is inside the
property's domain — defect D17). The repaired variant (`ws = true`) writes them as character
references and recovery holds for **all** byte strings. Bytes that are not XML `Char`s (C0
controls) cannot be carried by XML 1.0 at all and are outside the domain; `WFC` does not model the
`Char` production.
-/
namespace Writers
open Framing (marker find OccAt)

/-- reference expansion as a conforming parser does it undoes quick-xml's `escape`, on every byte string (line ends and
attribute-value normalisation come in with `values_recovered_*`) -/
theorem unescape_escape (s : List Nat) : unescape (escape s) = some s :=
  unesc_written escByte_writes false s (by simp)

/-- the output of `escape` contains none of `<` `>` `"` `'`, and `&` only as the first byte of
one of the five predefined references (`Escaped` = (plain byte | reference)*). In particular it
contains no `>`, hence no `]]>` and no part of a delimiter that needs a `>`. -/
theorem escape_no_meta (s : List Nat) :
    (∀ x ∈ escape s, x ≠ 60 ∧ x ≠ 62 ∧ x ≠ 34 ∧ x ≠ 39) ∧ Escaped (escape s) :=
  ⟨written_mem escByte_writes s, escaped_escape s⟩

/-- the same for the writers actually used for text and attribute leaves, in both variants -/
theorem escaped_leaves_no_meta (ws : Bool) (s : List Nat) :
    (∀ x ∈ escText ws s, x ≠ 60 ∧ x ≠ 62 ∧ x ≠ 34 ∧ x ≠ 39) ∧
    (∀ x ∈ escAttr ws s, x ≠ 60 ∧ x ≠ 62 ∧ x ≠ 34 ∧ x ≠ 39) :=
  ⟨escText_mem ws s, escAttr_mem ws s⟩

/-! ## the delimiter occurs exactly once, at the end -/

/-- **`no_marker_inside`.** Side condition, exactly: element and attribute names are XML names
(`namesOk`; true of every builder, `request_names`) and every raw leaf is marker-free (`MF`).
Nothing is required of the escaped leaves, and no condition relates a raw leaf to its neighbours:
in this code a raw fragment is always the *entire* content of its element (`XNode.raw`), so its
neighbours are the `>` of a start tag — preceded by a name byte or `"`, never by `]` — and the
`<` of an end tag, and neither can be part of a delimiter occurrence. Then the delimiter occurs
in the message at exactly one position: where `to_xml` appended it. -/
theorem no_marker_inside (ws : Bool) (m : XNode) (hn : namesOk m = true) (hr : ∀ r ∈ rawLeaves m, MF r) (j : Nat) :
    OccAt marker (toWire ws m) j ↔ j = (render ws m).length :=
  occ_wire_iff _ (good_render ws m hn hr).mf (good_render ws m hn hr).ends j

/-- `no_marker_inside` in the form C06 takes it: the receiver's greedy split cuts the message exactly at its end -/
theorem wire_well_framed (ws : Bool) (m : XNode) (hn : namesOk m = true) (hr : ∀ r ∈ rawLeaves m, MF r) :
    Framing.WellFramed (render ws m) :=
  find_wire _ (good_render ws m hn hr).mf (good_render ws m hn hr).ends

/-- why "entire content of its element" matters: two marker-free raw writes next to each other
can form a delimiter -/
theorem raw_adjacent_cex : MF b!"]]>]]" ∧ MF b!">" ∧ ¬ MF (b!"]]>]]" ++ b!">") := by decide +kernel

/-- **repaired `to_xml`** (`guard`): whatever the raw leaves contain, a message that is sent
carries the delimiter exactly once, at the end (and a body containing it is refused). -/
theorem send_guard_framed (c : Cfg) (hg : c.guard = true) (m : XNode) (hn : namesOk m = true) (w : List Nat)
    (h : send c m = some w) (j : Nat) : OccAt marker w j ↔ j + 6 = w.length := by
  obtain ⟨rfl, hmf, _⟩ := send_some h
  rw [toWire, occ_wire_iff _ (hmf hg) (endsGt_render _ m hn)]
  simp [Framing.marker_length]

/-- **`wf_of_wf_fragments`.** `F` is whatever the caller guarantees about the fragments it
supplies (a fragment is `content`). If every raw leaf satisfies `F`, the message is a single
well-formed element whose content is built from character data, references, elements and
`F`-fragments. -/
theorem wf_of_wf_fragments (F : List Nat → Prop) (ws : Bool) (m : XNode) (hn : namesOk m = true)
    (hr : ∀ r ∈ rawLeaves m, F r) : WFDoc F (render ws m) :=
  wf_render F ws m hn hr

/-- closed form: fragments from the produced subset itself give a document of the subset (no
opaque fragments left) -/
theorem wf_of_subset_fragments (ws : Bool) (m : XNode) (hn : namesOk m = true)
    (hr : ∀ r ∈ rawLeaves m, WFC (fun _ => False) r) : WFDoc (fun _ => False) (render ws m) := by
  rcases wf_render (WFC (fun _ => False)) ws m hn hr with h | ⟨n, names, ab, c, h1, h2, h3, h4, e⟩
  · exact Or.inl h
  · exact Or.inr ⟨n, names, ab, c, h1, h2, h3, wfc_flatten _ c h4, e⟩

/-- no raw leaves at all: unconditionally well-formed -/
theorem wf_of_no_raw (ws : Bool) (m : XNode) (hn : namesOk m = true) (hr : rawLeaves m = []) :
    WFDoc (fun _ => False) (render ws m) :=
  wf_render _ ws m hn (by simp [hr])

/-! ## values are recovered -/

/-- **`values_recovered`, text leaves.** For every escaped text leaf anywhere in the message: the
message is `pre ++ <n attrs> ++ span ++ </n> ++ post`, the span is found by scanning from the end
of the start tag to the next `<`, and a conforming parser's value for it is the caller's value. -/
theorem values_recovered_text (ws : Bool) (m : XNode) (n : List Nat) (as : List Attr) (v : List Nat)
    (hs : Sub (.text n as v) m) (hd : ws = true ∨ 13 ∉ v) :
    ∃ pre post, render ws m = pre ++ openTag ws n as ++ (escText ws v ++ closeTag n ++ post) ∧
      (escText ws v ++ closeTag n ++ post).takeWhile (· != 60) = escText ws v ∧
      parseText (escText ws v) = some v := by
  obtain ⟨pre, post, e⟩ := sub_render ws _ m hs
  refine ⟨pre, post, by simp [← e, render], ?_, ?_⟩
  · have : escText ws v ++ closeTag n ++ post = escText ws v ++ 60 :: (47 :: n ++ [62] ++ post) := by
      simp [closeTag]
    rw [this]
    exact takeWhile_span _ _ _ 60 (fun b hb => by simpa using (escText_mem ws v b hb).1) (by simp)
  · exact parseText_escText ws v hd

/-- **`values_recovered`, attribute leaves.** For every attribute of every node: the message is
`pre ++ ␣name=" ++ span ++ " ++ post`, the span ends at the next `"`, and a conforming parser's
(normalised) value for it is the caller's value. -/
theorem values_recovered_attr (ws : Bool) (m t : XNode) (a : Attr) (hs : Sub t m) (ha : a ∈ t.attrs)
    (hd : ws = true ∨ (9 ∉ a.value ∧ 10 ∉ a.value ∧ 13 ∉ a.value)) :
    ∃ pre post, render ws m = pre ++ (32 :: a.name ++ [61, 34]) ++ (escAttr ws a.value ++ 34 :: post) ∧
      (escAttr ws a.value ++ 34 :: post).takeWhile (· != 34) = escAttr ws a.value ∧
      parseAttr (escAttr ws a.value) = some a.value := by
  obtain ⟨pre, post, e⟩ := (render_attr ws t a ha).trans (sub_render ws t m hs)
  refine ⟨pre, post, by simp [← e, attrBytes], ?_, ?_⟩
  · exact takeWhile_span _ _ _ 34 (fun b hb => by simpa using (escAttr_mem ws _ b hb).2.2.1) (by simp)
  · exact parseAttr_escAttr ws _ hd

/-- both kinds of escaped leaf, repaired variant: recovered for **all** byte strings -/
theorem values_recovered_fixed (v : List Nat) : parseText (escText true v) = some v ∧ parseAttr (escAttr true v) = some v :=
  ⟨parseText_escText true v (Or.inl rfl), parseAttr_escAttr true v (Or.inl rfl)⟩

/-- D17, attribute leaves, code as it is: a line feed in an XPath `select` expression comes back
as a space; so do TAB and CR -/
theorem attr_ws_pinned_cex :
    parseAttr (escAttr false b!"a\nb") = some b!"a b" ∧ parseAttr (escAttr false b!"\t") = some b!" " ∧
    parseAttr (escAttr false b!"\r") = some b!" " := by decide +kernel

/-- D17, text leaves, code as it is: a carriage return in a log message / token / instance name
comes back as a line feed -/
theorem text_cr_pinned_cex :
    parseText (escText false b!"a\rb") = some b!"a\nb" ∧ parseText (escText false b!"a\r\nb") = some b!"a\nb" := by
  decide +kernel

/-! ## per operation: the conditions of the theorems above (`namesOk`, what holds of the raw leaves) in terms of the
parameters of each `Op` -/

/-- every name any builder writes is an XML name (caller-supplied element trees must be, too) -/
theorem request_names (c : Cfg) (id : Nat) (op : Op) (ht : ∀ t ∈ op.trees, namesOk t = true) :
    namesOk (request c id op) = true := by
  simp (config := {decide := true}) [request, namesOk, namesOkL, attrNamesOk, build_namesOk c op ht]

/-- **the table**: the raw leaves of a request are exactly `rawParams c op` — subtree filters,
`<config>` fragments (copy-config, validate, edit-config with `Opaque`), XML `load-configuration`
data, and — in the pinned snapshot (`payloadEsc = false`) — the text / JSON `load-configuration` payloads. Every other
parameter (XPath `select`, URLs, tokens, session ids, timeouts, instance names, log messages,
at-time, enumeration values, message-id, format/action) is an escaped leaf. -/
theorem request_raw_leaves (c : Cfg) (id : Nat) (op : Op) : rawLeaves (request c id op) = rawParams c op := by
  simp [request, rawLeaves, rawLeavesL, build_rawLeaves]

/-- `no_marker_inside` for a request: the condition on raw leaves is a condition on the parameters `rawParams c op` -/
theorem request_framed (c : Cfg) (id : Nat) (op : Op) (ht : ∀ t ∈ op.trees, namesOk t = true)
    (hr : ∀ r ∈ rawParams c op, MF r) (j : Nat) :
    OccAt marker (toWire c.wsRefs (request c id op)) j ↔ j = (render c.wsRefs (request c id op)).length :=
  no_marker_inside _ _ (request_names c id op ht) (by rw [request_raw_leaves]; exact hr) j

/-- `wf_of_wf_fragments` for a request, in the same way -/
theorem request_wf (F : List Nat → Prop) (c : Cfg) (id : Nat) (op : Op) (ht : ∀ t ∈ op.trees, namesOk t = true)
    (hr : ∀ r ∈ rawParams c op, F r) : WFDoc F (render c.wsRefs (request c id op)) :=
  wf_render F _ _ (request_names c id op ht) (by rw [request_raw_leaves]; exact hr)

/-- operations without a raw parameter: well-formed and well framed for **all** parameter values -/
theorem request_no_raw (c : Cfg) (id : Nat) (op : Op) (ht : op.trees = []) (h0 : rawParams c op = []) :
    WFDoc (fun _ => False) (render c.wsRefs (request c id op)) ∧
    find marker (toWire c.wsRefs (request c id op)) = some (render c.wsRefs (request c id op)).length :=
  render_no_raw _ _ (request_names c id op (by simp [ht])) (by rw [request_raw_leaves, h0])

/-- repaired text / JSON payloads are escaped leaves: for **every** payload the request is
well-formed, the delimiter occurs once at the end, and the payload is recovered -/
theorem load_text_fixed (id : Nat) (p : List Nat) (a : Act) :
    WFDoc (fun _ => False) (render true (request .fixed id (.loadConfiguration (.cfgText p a)))) ∧
    find marker (toWire true (request .fixed id (.loadConfiguration (.cfgText p a)))) =
      some (render true (request .fixed id (.loadConfiguration (.cfgText p a)))).length ∧
    Sub (.text (dataTag .text a) [] p) (request .fixed id (.loadConfiguration (.cfgText p a))) ∧
    parseText (escText true p) = some p := by
  have h := request_no_raw .fixed id (.loadConfiguration (.cfgText p a)) rfl rfl
  exact ⟨h.1, h.2, sub_request_child _ _ _ rfl, (values_recovered_fixed p).1⟩

theorem load_json_fixed (id : Nat) (p : List Nat) (a : Act) :
    WFDoc (fun _ => False) (render true (request .fixed id (.loadConfiguration (.cfgJson p a)))) ∧
    find marker (toWire true (request .fixed id (.loadConfiguration (.cfgJson p a)))) =
      some (render true (request .fixed id (.loadConfiguration (.cfgJson p a)))).length ∧
    Sub (.text (dataTag .json a) [] p) (request .fixed id (.loadConfiguration (.cfgJson p a))) ∧
    parseText (escText true p) = some p := by
  have h := request_no_raw .fixed id (.loadConfiguration (.cfgJson p a)) rfl rfl
  exact ⟨h.1, h.2, sub_request_child _ _ _ rfl, (values_recovered_fixed p).1⟩

/-- **D7, pinned snapshot** (`write_all`; repaired in /repo by b609769): a text payload that is the delimiter puts a second
delimiter inside the message (at byte 89 of 143+6); a payload `<` is not even character data
(`parseText` fails: the document is not well-formed), and `&lt;` comes back as `<`. -/
theorem text_payload_raw_cex :
    rawParams .pinned (.loadConfiguration (.cfgText b!"]]>]]>" .merge)) = [b!"]]>]]>"] ∧
    find marker (toWire false (request .pinned 1 (.loadConfiguration (.cfgText b!"]]>]]>" .merge)))) = some 89 ∧
    (render false (request .pinned 1 (.loadConfiguration (.cfgText b!"]]>]]>" .merge)))).length = 143 ∧
    parseText b!"<" = none ∧ parseText b!"a & b" = none ∧ parseText b!"&lt;" = some b!"<" := by decide +kernel

theorem json_payload_raw_cex :
    find marker (toWire false (request .pinned 1 (.loadConfiguration (.cfgJson b!"]]>]]>" .merge)))) = some 89 ∧
    parseText b!"{\"a\":\"<&>\"}" = none := by decide +kernel

/-- the client `<hello>`: always well-formed and well framed -/
theorem hello_ok (ws : Bool) (caps : List (List Nat)) :
    WFDoc (fun _ => False) (render ws (hello caps)) ∧
    find marker (toWire ws (hello caps)) = some (render ws (hello caps)).length :=
  render_no_raw ws _ (hello_namesOk caps) (hello_rawLeaves caps)

/-- the agent's `<configuration>` payload has no raw leaf: policy names, the comment carrying the
filter expression and the prefixes are all escaped, so it is well-formed content for every name and
expression, and so is the `<load-configuration>` request that carries it -/
theorem agent_payload_ok (c : Cfg) (id : Nat) (u : Update) (a : Act) :
    WFDoc (fun _ => False) (render c.wsRefs (updateTree u)) ∧
    WFDoc (fun _ => False) (render c.wsRefs (request c id (.loadConfiguration (.cfgXmlTree (updateTree u) a)))) ∧
    find marker (toWire c.wsRefs (request c id (.loadConfiguration (.cfgXmlTree (updateTree u) a)))) =
      some (render c.wsRefs (request c id (.loadConfiguration (.cfgXmlTree (updateTree u) a)))).length := by
  have ht : ∀ t ∈ (Op.loadConfiguration (.cfgXmlTree (updateTree u) a)).trees, namesOk t = true := by
    intro t h; simp [Op.trees] at h; subst h; exact updateTree_namesOk u
  exact ⟨(render_no_raw _ _ (updateTree_namesOk u) (updateTree_rawLeaves u)).1,
    render_no_raw _ _ (request_names c id _ ht) (by rw [request_raw_leaves]; simp [rawParams, updateTree_rawLeaves])⟩

/-- **D18**: a *well-formed* caller-supplied fragment can contain the delimiter (inside an
attribute value, a comment or a processing instruction), and the pinned snapshot embeds it
verbatim: a second delimiter inside the message. The repaired `to_xml` (8b33dd9, in /repo now) refuses to send it. -/
theorem fragment_marker_cex :
    WFC (fun _ => False) b!"<a x=\"]]>]]>\"/>" ∧
    find marker (toWire false (request .pinned 1
      (.editConfig .candidate .merge .stopOnError .testThenSet (.config b!"<a x=\"]]>]]>\"/>")))) = some 76 ∧
    (render false (request .pinned 1
      (.editConfig .candidate .merge .stopOnError .testThenSet (.config b!"<a x=\"]]>]]>\"/>")))).length = 114 ∧
    send .fixed (request .fixed 1
      (.editConfig .candidate .merge .stopOnError .testThenSet (.config b!"<a x=\"]]>]]>\"/>"))) = none := by
  refine ⟨?_, by decide +kernel, by decide +kernel, by decide +kernel⟩
  have hv : AttValWF b!"]]>]]>" := by
    repeat (first | exact AttValWF.nil | apply AttValWF.char _ _ (by decide) (by decide) (by decide))
  have := WFC.empty (F := fun _ => False) b!"a" [b!"x"] b!" x=\"]]>]]>\"" [] (by decide)
    (AttrsWF.cons b!"x" b!"]]>]]>" [] [] (by decide) hv AttrsWF.nil) (by decide) WFC.nil
  simpa using this

/-! ## characters XML cannot carry -/

/-- **repaired `to_xml`** (`charGuard`): every message that is sent consists of XML 1.0 `Char`s
only — whatever the caller put into text values, attribute values, payloads and fragments. -/
theorem sent_chars_ok (c : Cfg) (hg : c.charGuard = true) (m : XNode) (w : List Nat)
    (h : send c m = some w) : charsOk w = true :=
  (send_some h).2.2 hg

/-- a refusal has one of the two stated reasons (no other path to `none`) -/
theorem refused_only_for_reason (c : Cfg) (m : XNode) (h : send c m = none) :
    (c.guard = true ∧ (find marker (render c.wsRefs m)).isSome = true) ∨
    (c.charGuard = true ∧ charsOk (toWire c.wsRefs m) = false) := by
  unfold send at h
  split at h
  · rename_i h1; left; simpa using h1
  · split at h
    · rename_i h2; right; simpa using h2
    · cases h

/-- **D19**: the code of the pinned snapshot sends a log message containing U+0001 as it is — the
message is not an XML document (no conforming parser accepts the byte, escaped or not); the
repaired `to_xml` refuses it. -/
theorem control_char_sent_cex :
    send .pinned (request .pinned 1 (.commitConfiguration false none none (some [1]) none)) =
      some b!"<rpc message-id=\"1\"><commit-configuration><log>\x01</log></commit-configuration></rpc>]]>]]>" ∧
    send .fixed (request .fixed 1 (.commitConfiguration false none none (some [1]) none)) = none := by
  refine ⟨by decide +kernel, by decide +kernel⟩

/-- U+FFFE / U+FFFF are refused as well, U+FFFD and supplementary-plane text pass -/
example : charsOk [97, 239, 191, 189, 98, 240, 157, 132, 158] = true ∧ charsOk [97, 239, 191, 190] = false ∧ charsOk [239, 191, 191] = false := by decide +kernel

/-- the hypotheses of the framing / well-formedness theorems are satisfiable: an ordinary subtree
filter is marker-free content of the subset -/
example : MF b!"<configuration><policy-options/></configuration>" := by decide +kernel

/-- concrete instances: the exact bytes of three requests (the correspondence run compares these functions with the
real builders on generated requests) -/
example : toWire false (request .pinned 7 (.get (some (.xpath b!"<\"]]>")))) =
    b!"<rpc message-id=\"7\"><get><filter type=\"xpath\" select=\"&lt;&quot;]]&gt;\"/></get></rpc>]]>]]>" := by decide +kernel

example : toWire false (request .pinned 12 (.commitConfiguration false none (some 61) (some b!"a&b") (some true))) =
    b!"<rpc message-id=\"12\"><commit-configuration><confirmed/><confirm-timeout>2</confirm-timeout><log>a&amp;b</log><force-synchronize/></commit-configuration></rpc>]]>]]>" := by
  decide +kernel

example : send .fixed (request .fixed 1 (.loadConfiguration (.cfgText b!"]]>]]>" .set))) =
    some b!"<rpc message-id=\"1\"><load-configuration format=\"text\" action=\"set\"><configuration-set>]]&gt;]]&gt;</configuration-set></load-configuration></rpc>]]>]]>" := by
  decide +kernel

/-- an instance of `values_recovered_attr` with all hypotheses discharged -/
example : parseAttr (escAttr false b!"/a[b='<&>\"']") = some b!"/a[b='<&>\"']" := by decide +kernel

/-- and of `no_marker_inside` -/
example (j : Nat) : OccAt marker (toWire false (request .pinned 3 (.get (some (.subtree b!"<a>]]&gt;</a>"))))) j ↔
    j = (render false (request .pinned 3 (.get (some (.subtree b!"<a>]]&gt;</a>"))))).length :=
  request_framed .pinned 3 _ (by simp [Op.trees]) (by simp [rawParams]; decide +kernel) j

/-! ## the bytes reach the socket: `write_all` is a loop over partial writes

`SendHandle::send` of the TLS and CLI transports hands the serialised message to `write_all`
(tls.rs:106, junos_local.rs:116). One call of the underlying `poll_write` may accept only part of the
buffer; `caps` below lists, call by call, how many bytes the writer is prepared to accept (`0` = the call
fails). Model: `Framing.writeAll` (Model/SendLoop.lean); `Framing.writeOnce` is the variant with a single
`write_buf` call. -/

open Framing (writeAll writeOnce writeMany recvAll datas split pump)

/-- **`write_all` writes all of it.** For every message and every sequence of partial-write sizes, as long
as no call fails (every size ≥ 1) and the writer does not stop accepting for good (`data.length ≤ caps.length`
is enough calls in the worst case of one byte per call): the chunks written, concatenated, are the message,
and `write_all` reports success. -/
theorem write_all_complete (data : List Nat) (caps : List Nat) (hpos : ∀ c ∈ caps, 1 ≤ c)
    (hlen : data.length ≤ caps.length) :
    (writeAll data caps).1.flatten = data ∧ (writeAll data caps).2 = true :=
  Framing.writeAll_complete data caps hpos hlen

/-- `write_all` with *no* assumption on the sizes (failing calls, too few calls): what was written is a prefix of
the message — never reordered, duplicated or padded — every write is non-empty, and `Ok(())` is reported
exactly when nothing is missing. -/
theorem write_all_prefix (data : List Nat) (caps : List Nat) :
    (∃ rest, (writeAll data caps).1.flatten ++ rest = data ∧ ((writeAll data caps).2 = true ↔ rest = [])) ∧
    ∀ ch ∈ (writeAll data caps).1, ch ≠ [] :=
  ⟨Framing.writeAll_spec data caps, Framing.writeAll_chunks data caps⟩

/-- the stream a sequence of `send` calls puts on the socket (`p.2` = the partial-write sizes of that call) -/
def sentChunks (ws : Bool) (sends : List (XNode × List Nat)) : List (List Nat) :=
  writeMany writeAll (sends.map fun p => (toWire ws p.1, p.2))

theorem sentChunks_flatten (ws : Bool) (sends : List (XNode × List Nat))
    (hc : ∀ p ∈ sends, (∀ c ∈ p.2, 1 ≤ c) ∧ (toWire ws p.1).length ≤ p.2.length) :
    (sentChunks ws sends).flatten = Framing.wire (sends.map fun p => render ws p.1) := by
  unfold sentChunks
  rw [Framing.writeMany_flatten _ (List.forall_mem_map.mpr hc)]
  simp [Framing.wire, List.map_map, Function.comp_def, toWire]

/-- composition core: all that is needed of the messages is that each is well framed (C06) -/
theorem written_then_received_wf (ws : Bool) (sends : List (XNode × List Nat)) (cs : List (List Nat))
    (hwf' : ∀ p ∈ sends, Framing.WellFramed (render ws p.1))
    (hc : ∀ p ∈ sends, (∀ c ∈ p.2, 1 ≤ c) ∧ (toWire ws p.1).length ≤ p.2.length)
    (hcs : cs.flatten = (sentChunks ws sends).flatten) :
    split (sentChunks ws sends).flatten = (sends.map fun p => toWire ws p.1, []) ∧
    recvAll .fixed (sends.length + 1) [] (datas cs) = (sends.map fun p => toWire ws p.1, .pending []) ∧
    pump .fixed (cs.map .data) [] = (sends.map fun p => toWire ws p.1, [], .running) := by
  have hwf : ∀ m ∈ sends.map (fun p => render ws p.1), Framing.WellFramed m := List.forall_mem_map.mpr hwf'
  have hfl := sentChunks_flatten ws sends hc
  have e : (sends.map fun p => render ws p.1).map (· ++ marker) = sends.map fun p => toWire ws p.1 := by
    simp [List.map_map, Function.comp_def, toWire]
  refine ⟨?_, ?_, ?_⟩
  · rw [hfl, Framing.split_wire _ hwf, e]
  · have := Framing.recvAll_framed _ cs hwf (hcs.trans hfl)
    rwa [List.length_map, e] at this
  · have := Framing.pump_framed _ cs hwf (hcs.trans hfl)
    rwa [e] at this

/-- **Sender and receiver composed (C10 ∘ C06), full statement, any number of messages.**
Requests whose names are XML names and whose raw leaves are marker-free (`no_marker_inside`) are
serialised by `to_xml`, each is written with `write_all` under ANY partial-write sizes (no failing call), and
the byte stream is cut into the receiver's reads in ANY way `cs` (in particular: as the chunks that were
written). Then the receiver's greedy split of the stream, the receive loop `recvAll` of C06 run on `cs`, and
the SSH pump run on `cs` as packets, all yield exactly the serialised requests — each once, in order,
nothing left over. -/
theorem written_then_received (ws : Bool) (sends : List (XNode × List Nat)) (cs : List (List Nat))
    (hm : ∀ p ∈ sends, namesOk p.1 = true ∧ ∀ r ∈ rawLeaves p.1, MF r)
    (hc : ∀ p ∈ sends, (∀ c ∈ p.2, 1 ≤ c) ∧ (toWire ws p.1).length ≤ p.2.length)
    (hcs : cs.flatten = (sentChunks ws sends).flatten) :
    split (sentChunks ws sends).flatten = (sends.map fun p => toWire ws p.1, []) ∧
    recvAll .fixed (sends.length + 1) [] (datas cs) = (sends.map fun p => toWire ws p.1, .pending []) ∧
    pump .fixed (cs.map .data) [] = (sends.map fun p => toWire ws p.1, [], .running) :=
  written_then_received_wf ws sends cs (fun p hp => wire_well_framed ws p.1 (hm p hp).1 (hm p hp).2) hc hcs

/-- the same for the repaired `to_xml` (`guard`), with no condition on the raw leaves: every message that
`send` does not refuse arrives -/
theorem sent_then_received_guard (c : Cfg) (hg : c.guard = true) (sends : List (XNode × List Nat))
    (cs : List (List Nat)) (hn : ∀ p ∈ sends, namesOk p.1 = true)
    (hs : ∀ p ∈ sends, send c p.1 ≠ none)
    (hc : ∀ p ∈ sends, (∀ k ∈ p.2, 1 ≤ k) ∧ (toWire c.wsRefs p.1).length ≤ p.2.length)
    (hcs : cs.flatten = (sentChunks c.wsRefs sends).flatten) :
    split (sentChunks c.wsRefs sends).flatten = (sends.map fun p => toWire c.wsRefs p.1, []) ∧
    recvAll .fixed (sends.length + 1) [] (datas cs) = (sends.map fun p => toWire c.wsRefs p.1, .pending []) ∧
    pump .fixed (cs.map .data) [] = (sends.map fun p => toWire c.wsRefs p.1, [], .running) := by
  refine written_then_received_wf c.wsRefs sends cs (fun p hp => ?_) hc hcs
  cases hw : send c p.1 with
  | none => exact absurd hw (hs p hp)
  | some w => exact find_wire _ ((send_some hw).2.1 hg) (endsGt_render _ p.1 (hn p hp))

/-- the receiver reads exactly the chunks that were written -/
theorem written_chunks_received (ws : Bool) (sends : List (XNode × List Nat))
    (hm : ∀ p ∈ sends, namesOk p.1 = true ∧ ∀ r ∈ rawLeaves p.1, MF r)
    (hc : ∀ p ∈ sends, (∀ c ∈ p.2, 1 ≤ c) ∧ (toWire ws p.1).length ≤ p.2.length) :
    recvAll .fixed (sends.length + 1) [] (datas (sentChunks ws sends))
      = (sends.map fun p => toWire ws p.1, .pending []) :=
  (written_then_received ws sends _ hm hc rfl).2.1

/-- **a single `write_buf` call instead of the loop**: a 43-byte request, a writer that accepts 16 bytes per
call. One call writes the first 16 bytes and the rest is never written: the peer's receiver finds no
delimiter and waits, holding `<rpc message-id=`. With the loop (same sizes) the request arrives. -/
theorem write_once_cex :
    let msg := toWire false (request .pinned 7 (.get none))
    msg.length = 43 ∧
    (writeOnce msg [16, 16, 16]).1.flatten = b!"<rpc message-id=" ∧
    (writeOnce msg [16, 16, 16]).2 = false ∧
    recvAll .fixed 2 [] (datas (writeOnce msg [16, 16, 16]).1) = ([], .pending b!"<rpc message-id=") ∧
    recvAll .fixed 2 [] (datas (writeAll msg [16, 16, 16]).1) = ([msg], .pending []) := by decide +kernel

/-- non-vacuity of `written_then_received`: two requests, the first written 7 bytes at a time, the
second in writes of 1, 2, 3, … bytes; the delimiter of the first is cut 5|1 by the writes -/
example :
    let m1 := request .pinned 7 (.get none)
    let m2 := request .pinned 8 (.get (some (.xpath b!"/a")))
    let sends := [(m1, List.replicate 43 7), (m2, List.range' 1 80)]
    (sentChunks false sends).length = 19 ∧
    recvAll .fixed 3 [] (datas (sentChunks false sends)) = ([toWire false m1, toWire false m2], .pending []) := by
  decide +kernel

/-! ### the delimiter guard looks at the message, not at the writes that produced it

A caller-supplied payload serialiser may hand its output to the writer in any number of writes (a
streamed fragment). `to_xml` searches the finished body, so where the writes end is irrelevant. A
guard that searched each write on its own would be weaker: a delimiter straddling two writes passes it. -/

/-- the variant that checks every written block on its own -/
def sendChunked (blocks : List (List Nat)) : Option (List Nat) :=
  if blocks.any (fun b => (find marker b).isSome) then none else some (blocks.flatten ++ marker)

/-- a delimiter inside one block is a delimiter of the whole: whatever the whole-message guard lets
through, the per-block guard lets through as well (it is the weaker one) -/
theorem whole_guard_implies_block_guard (blocks : List (List Nat))
    (h : find marker blocks.flatten = none) : ∀ b ∈ blocks, find marker b = none := by
  intro b hb
  rw [← mf_iff_find] at h ⊢
  exact mf_of_infix (List.infix_of_mem_flatten hb) h

/-- the per-block guard is strictly weaker: `<!-- ]]>]` + `]> -->` passes block by block, and what is sent contains
the delimiter in its body (the peer cuts it in two frames) -/
theorem per_block_guard_cex :
    let blocks := [b!"<c><!-- ]]>]", b!"]> --></c>"]
    (blocks.all fun b => (find marker b).isNone) = true ∧
    (find marker blocks.flatten).isSome = true ∧
    (sendChunked blocks).isSome = true ∧
    (Framing.split ((sendChunked blocks).getD [])).1.length = 2 := by decide +kernel

end Writers
