import Bgpfu.Lemmas.Framing
import Bgpfu.Lemmas.PumpQueue
/-!
# C06 — message boundaries do not depend on how the byte stream is segmented

The property theorems, the notions their statements use (`WellFramed`, `wire`, `dropOther`) and `split_wire`, which
C10 composes with; the lemmas about `find`, `split`, `specRecv` and the pump/queue invariant are in
`Bgpfu.Lemmas.Framing` and `Bgpfu.Lemmas.PumpQueue`.
`Cfg.fixed` / `PumpCfg.fixed` are the loops as they are in /repo now (the correspondence run
checks that); `Cfg.pinned` / `PumpCfg.pinned` are the loops of the pinned snapshot.
-/
namespace Framing

/-- A message body is well framed if the first delimiter in `m ++ marker` is the appended one. -/
def WellFramed (m : List Byte) : Prop := find marker (m ++ marker) = some m.length

instance (m : List Byte) : Decidable (WellFramed m) := by unfold WellFramed; infer_instance

/-- the wire stream of a message sequence -/
def wire (ms : List (List Byte)) : List Byte := (ms.map (· ++ marker)).flatten

/-- **C06 (TLS / local CLI transports), main theorem.**
For every initial buffer and *every* way `cs` of cutting the rest of the stream into reads, repeated
`recv` calls return exactly the greedy split of the concatenated stream, in order, each once, and
then block with exactly the incomplete residue in the buffer. Nothing depends on `cs` except its
concatenation. -/
theorem recvAll_eq_split (fuel : Nat) (buf : List Byte) (cs : List (List Byte))
    (hfuel : (split (buf ++ cs.flatten)).1.length < fuel) :
    recvAll .fixed fuel buf (datas cs)
      = ((split (buf ++ cs.flatten)).1, .pending (split (buf ++ cs.flatten)).2) := by
  induction fuel generalizing buf cs with
  | zero => omega
  | succ n ih =>
    rw [recvAll, recv_eq_spec]
    cases hf : find marker (buf ++ cs.flatten) with
    | none =>
      have := specRecv_datas_none cs [] buf hf
      rw [List.append_nil, specRecv_nil hf] at this
      rw [this, split_none _ hf]
    | some i =>
      obtain ⟨cs', buf', h1, h2⟩ := specRecv_datas_some cs [] buf i hf
      rw [List.append_nil, List.append_nil] at h1
      rw [split_some _ i hf, ← h2] at hfuel ⊢
      rw [h1]
      simp only []
      rw [ih buf' cs' (by simpa using hfuel)]

/-- Two segmentations of the same stream are indistinguishable. -/
theorem chunking_independent (fuel : Nat) (cs₁ cs₂ : List (List Byte))
    (h : cs₁.flatten = cs₂.flatten) (hfuel : (split cs₁.flatten).1.length < fuel) :
    recvAll .fixed fuel [] (datas cs₁) = recvAll .fixed fuel [] (datas cs₂) := by
  rw [recvAll_eq_split fuel [] cs₁ (by simpa using hfuel),
      recvAll_eq_split fuel [] cs₂ (by simpa [← h] using hfuel), h]

/-- The greedy split of the wire form of well-framed messages is those messages. -/
theorem split_wire (ms : List (List Byte)) (h : ∀ m ∈ ms, WellFramed m) :
    split (wire ms) = (ms.map (· ++ marker), []) := by
  induction ms with
  | nil => simp [wire, split_none, find, marker]
  | cons m ms ih =>
    have hw : wire (m :: ms) = (m ++ marker) ++ wire ms := by simp [wire]
    rw [hw, split_append, split_one m (h m (by simp)), List.nil_append, ih fun x hx => h x (by simp [hx])]
    rfl

/-- **C06, user-level statement**: the peer sends well-framed messages `ms`; however the stream is
cut into reads, the session layer receives exactly `ms` (with their delimiters), each once, in
order, and is then blocked with an empty buffer. -/
theorem recvAll_framed (ms : List (List Byte)) (cs : List (List Byte))
    (hms : ∀ m ∈ ms, WellFramed m) (hcs : cs.flatten = wire ms) :
    recvAll .fixed (ms.length + 1) [] (datas cs) = (ms.map (· ++ marker), .pending []) := by
  have := recvAll_eq_split (ms.length + 1) [] cs (by simp [hcs, split_wire ms hms])
  simpa [hcs, split_wire ms hms] using this

/-- **Promptness**: `recv` never blocks while a complete delimiter has already arrived. -/
theorem recv_prompt (buf : List Byte) (cs : List (List Byte)) (b : List Byte)
    (h : recv .fixed buf (datas cs) = .pending b) : find marker (buf ++ cs.flatten) = none := by
  rw [recv_eq_spec] at h
  cases hf : find marker (buf ++ cs.flatten) with
  | none => rfl
  | some i =>
    obtain ⟨cs', buf', h1, _⟩ := specRecv_datas_some cs [] buf i hf
    rw [List.append_nil, h] at h1; cases h1

/-- and the message is delivered using only the reads up to the one that completed the delimiter:
if the delimiter is complete after the first `k` reads, at most `k` reads are consumed. -/
theorem recv_minimal (buf : List Byte) (cs₁ cs₂ : List (List Byte)) (i : Nat)
    (h : find marker (buf ++ cs₁.flatten) = some i) :
    ∃ m buf' cs', recv .fixed buf (datas (cs₁ ++ cs₂)) = .msg m buf' (datas (cs' ++ cs₂)) := by
  obtain ⟨cs', buf', h1, _⟩ := specRecv_datas_some cs₁ (datas cs₂) buf i h
  exact ⟨_, buf', cs', by rw [recv_eq_spec, datas_append, datas_append]; exact h1⟩

/-- **C06 (SSH transport)**: starting from a buffer without a complete delimiter (the pump's
invariant; initially the buffer is empty), the pump enqueues exactly the greedy split of the
channel-data stream, whatever the packetisation, and keeps exactly the incomplete residue. -/
theorem pump_eq_split (buf : List Byte) (cs : List (List Byte)) (hbuf : find marker buf = none) :
    pump .fixed (cs.map .data) buf
      = ((split (buf ++ cs.flatten)).1, (split (buf ++ cs.flatten)).2, .running) := by
  simpa [pump] using pump_datas cs [] buf hbuf

/-- `recvAll_framed` for the SSH pump: well-framed messages `ms`, packetised in any way, are enqueued as they are -/
theorem pump_framed (ms : List (List Byte)) (cs : List (List Byte))
    (hms : ∀ m ∈ ms, WellFramed m) (hcs : cs.flatten = wire ms) :
    pump .fixed (cs.map .data) [] = (ms.map (· ++ marker), [], .running) := by
  have := pump_eq_split [] cs (by decide)
  simpa [hcs, split_wire ms hms] using this

/-- **Promptness (SSH)**: after every packet the pump's buffer holds no complete delimiter, i.e.
every message whose delimiter has arrived has already been enqueued. -/
theorem pump_prompt (buf : List Byte) (cs : List (List Byte)) (hbuf : find marker buf = none) :
    find marker (pump .fixed (cs.map .data) buf).2.1 = none := by
  rw [pump_eq_split buf cs hbuf]; exact split_residue _

/-- **Robustness of the repair**: any restart distance of at least `marker.length - 1` bytes (e.g.
the whole marker length) gives the same behaviour; only a smaller one — in particular 0, the pinned
snapshot — can miss a delimiter. -/
theorem recv_any_sufficient_back (back : Nat) (hb : marker.length - 1 ≤ back) (buf : List Byte) (reads : List Read) :
    recv { back := back, eofCheck := true } buf reads = recv .fixed buf reads := by
  rw [recv_eq_spec]
  exact recvLoop_eq_spec_back back hb reads 0 buf (by intro j hj; omega)

/-- a restart distance of 4 (one short) already misses a delimiter cut 5|1 -/
theorem recv_back_4_cex :
    recv { back := 4, eofCheck := true } [] (datas [[60, 97, 47, 62, 93, 93, 62, 93, 93], [62]])
      = .pending [60, 97, 47, 62, 93, 93, 62, 93, 93, 62] := by decide +kernel

/-! ### Non-vacuity and the pinned snapshot -/

/-- `<a/>` is well framed, `]]>` is not (EOM framing is inherently ambiguous for such bodies). -/
example : WellFramed [60, 97, 47, 62] ∧ ¬ WellFramed [93, 93, 62] := by decide +kernel

/-- a concrete instance of `recvAll_framed`: two messages, the first delimiter cut 3|3 -/
example : recvAll .fixed 3 [] (datas [[60, 97, 47, 62, 93, 93, 62], [93, 93, 62, 60, 98], [47, 62, 93, 93, 62, 93, 93, 62]])
    = ([[60, 97, 47, 62, 93, 93, 62, 93, 93, 62], [60, 98, 47, 62, 93, 93, 62, 93, 93, 62]], .pending []) := by decide +kernel

/-- The pinned loop (`searched = buf.len()`) misses a delimiter split across two reads:
the delimiter is complete in the buffer and `recv` blocks forever (defect D1). -/
theorem recv_straddle_cex :
    recv .pinned [] (datas [[60, 97, 47, 62, 93, 93, 62], [93, 93, 62]])
      = .pending [60, 97, 47, 62, 93, 93, 62, 93, 93, 62] := by decide +kernel

/-- The pinned SSH pump enqueues one message per packet: with two messages in one packet the
second stays in the buffer until more traffic arrives (defect D2). -/
theorem pump_two_in_one_cex :
    pump .pinned [.data (wire [[60, 97, 47, 62], [60, 98, 47, 62]])] []
      = ([[60, 97, 47, 62, 93, 93, 62, 93, 93, 62]], [60, 98, 47, 62, 93, 93, 62, 93, 93, 62], .running) := by decide +kernel

/-! ## The SSH pump and its *bounded* queue (`mpsc::channel(32)`, ssh.rs:59,95)

`pump` above is the pump with an unbounded queue. The small-step model `PQ` (Model/Framing.lean) adds
the queue capacity, the suspended `send(..).await` and the consumer. Reachable states are
`PQ.run true cap acts (PQ.init evs)` for an arbitrary interleaving `acts` of pump polls and `recv()` calls. -/

/-- **Bounded queue, safety.** In every reachable state, for every capacity and every interleaving:
the queue never exceeds its capacity, and *delivered ++ queued ++ split-off-but-not-yet-enqueued* is a
prefix of the output of the unbounded pump — same messages, same order, each at one place (the
concatenation is a prefix, so nothing is duplicated or reordered) — and what is missing is exactly what
the unbounded pump would still produce from the unprocessed events (nothing is dropped). -/
theorem pumpq_safety (cap : Nat) (evs : List ChanEv) (acts : List PQAct) :
    let s := PQ.run true cap acts (PQ.init evs)
    s.delivered ++ s.queue ++ s.todo <+: (pump .fixed evs []).1 ∧
    s.queue.length ≤ cap ∧
    s.delivered ++ s.queue ++ s.todo ++ (pump .fixed s.evs s.buf).1 = (pump .fixed evs []).1 := by
  intro s
  have h := PQ.run_inv (s := PQ.init evs) acts (PQ.init_inv evs cap)
  exact ⟨⟨_, h.parts⟩, h.room, h.parts⟩

/-- **Bounded queue, liveness (general fairness).** From every reachable state (after any `acts`), any
continuation that consists of at least
`pending events + 2 * (messages of the unbounded pump not yet delivered)` *rounds* — a round is any
stretch of the schedule in which the pump is polled at least once and `recv()` is called at least once, in
any order, any number of times — ends with every message of the unbounded pump delivered, in order,
nothing left in the queue or in the pump, and the pump in the final status of the unbounded pump.
Needs `cap ≥ 1` only. No assumption on the events: if they contain `eof`/`closed`, `(pump .fixed evs []).1`
is the messages completed before it (`pump_data_then_end`, `pumpq_delivers_before_eof`). -/
theorem pumpq_liveness (cap : Nat) (hcap : 1 ≤ cap) (evs : List ChanEv) (acts : List PQAct)
    (rounds : List (List PQAct)) (hfair : ∀ r ∈ rounds, PQAct.pump ∈ r ∧ PQAct.consume ∈ r)
    (hlen : (PQ.run true cap acts (PQ.init evs)).evs.length +
        2 * ((pump .fixed evs []).1.length - (PQ.run true cap acts (PQ.init evs)).delivered.length) ≤ rounds.length) :
    let s' := PQ.run true cap (acts ++ rounds.flatten) (PQ.init evs)
    s'.delivered = (pump .fixed evs []).1 ∧ s'.queue = [] ∧ s'.todo = [] ∧ s'.evs = [] ∧
    s'.st = (pump .fixed evs []).2.2 := by
  intro s'
  have hs : s' = PQ.run true cap rounds.flatten (PQ.run true cap acts (PQ.init evs)) := PQ.run_append ..
  have hw := PQ.rounds_work hcap rounds (PQ.run true cap acts (PQ.init evs)) hfair
  have hb := PQ.work_le_of_inv (PQ.run_inv (s := PQ.init evs) acts (PQ.init_inv evs cap))
  rw [← hs] at hw
  have h0 := Nat.sub_eq_zero_of_le (Nat.le_trans hb hlen)
  exact (show s'.Inv _ _ cap from PQ.run_inv _ (PQ.init_inv evs cap)).done (Nat.eq_zero_of_le_zero (h0 ▸ hw))

/-- **Bounded queue, liveness (explicit schedule and bound).** From the reachable state after `acts`,
the round-robin schedule pump, consume, pump, consume, … of `2 * n` steps, for any
`n ≥ pending events + 2 * undelivered messages`, delivers everything. -/
theorem pumpq_liveness_round_robin (cap : Nat) (hcap : 1 ≤ cap) (evs : List ChanEv) (acts : List PQAct) (n : Nat)
    (hn : (PQ.run true cap acts (PQ.init evs)).evs.length +
        2 * ((pump .fixed evs []).1.length - (PQ.run true cap acts (PQ.init evs)).delivered.length) ≤ n) :
    let s' := PQ.run true cap (acts ++ roundRobin n) (PQ.init evs)
    (roundRobin n).length = 2 * n ∧
    s'.delivered = (pump .fixed evs []).1 ∧ s'.queue = [] ∧ s'.todo = [] ∧ s'.evs = [] ∧
    s'.st = (pump .fixed evs []).2.2 := by
  intro s'
  refine ⟨roundRobin_length n, ?_⟩
  have := pumpq_liveness cap hcap evs acts (List.replicate n [PQAct.pump, PQAct.consume])
    (by intro r hr; rw [List.eq_of_mem_replicate hr]; simp) (by simpa using hn)
  rw [← roundRobin_eq] at this
  exact this

/-- **user-level form, channel stays open**: the peer sends well-framed messages `ms`, packetised in any
way `cs`; with any queue capacity `≥ 1`, after `cs.length + 2 * ms.length` rounds of any fair schedule the
session has received exactly `ms` (with delimiters), each once, in order; the pump is running and idle. -/
theorem pumpq_delivers_framed (cap : Nat) (hcap : 1 ≤ cap) (ms : List (List Byte)) (cs : List (List Byte))
    (hms : ∀ m ∈ ms, WellFramed m) (hcs : cs.flatten = wire ms)
    (rounds : List (List PQAct)) (hfair : ∀ r ∈ rounds, PQAct.pump ∈ r ∧ PQAct.consume ∈ r)
    (hlen : cs.length + 2 * ms.length ≤ rounds.length) :
    let s' := PQ.run true cap rounds.flatten (PQ.init (cs.map .data))
    s'.delivered = ms.map (· ++ marker) ∧ s'.queue = [] ∧ s'.todo = [] ∧ s'.evs = [] ∧ s'.st = .running := by
  have hp := pump_framed ms cs hms hcs
  have := pumpq_liveness cap hcap (cs.map .data) [] rounds hfair (by simpa [PQ.run, PQ.init, hp] using hlen)
  simpa [hp] using this

/-- **what happens at `eof` / channel closure**: the messages completed by the data before it are all
delivered (they were enqueued before the pump exited, and a closed `mpsc` queue still hands out what it
holds); the pump ends `exited`, so the next `recv()` finds the queue empty and closed
(`Err(DequeueMessage)`); events after the end are never looked at. -/
theorem pumpq_delivers_before_eof (cap : Nat) (hcap : 1 ≤ cap) (cs : List (List Byte)) (e : ChanEv) (post : List ChanEv)
    (he : e = .eof ∨ e = .closed)
    (rounds : List (List PQAct)) (hfair : ∀ r ∈ rounds, PQAct.pump ∈ r ∧ PQAct.consume ∈ r)
    (hlen : (cs.length + 1 + post.length) + 2 * (split cs.flatten).1.length ≤ rounds.length) :
    let s' := PQ.run true cap rounds.flatten (PQ.init (cs.map .data ++ e :: post))
    s'.delivered = (split cs.flatten).1 ∧ s'.queue = [] ∧ s'.todo = [] ∧ s'.evs = [] ∧ s'.st = .exited := by
  have hp := pump_data_then_end cs e post [] (by decide) (by rcases he with rfl | rfl <;> rfl)
  simp only [List.nil_append] at hp
  have := pumpq_liveness cap hcap (cs.map .data ++ e :: post) [] rounds hfair
    (by simp only [PQ.run, PQ.init, hp.1, List.length_append, List.length_map, List.length_cons, List.length_nil]; omega)
  simpa [hp.1, hp.2] using this

/-! ### Non-vacuity, and the variant that does not wait for room in the queue -/

/-- capacity 1, one packet completing three messages `<a/>`, `<b/>`, `<c/>`: after three polls of the pump the
queue is full and the pump is suspended in `send` with two messages in hand (back-pressure, nothing lost);
six fair rounds later all three have been delivered in order. -/
example :
    let evs := [ChanEv.data (wire [[60, 97, 47, 62], [60, 98, 47, 62], [60, 99, 47, 62]])]
    let s := PQ.run true 1 [.pump, .pump, .pump] (PQ.init evs)
    let s' := PQ.run true 1 ([.pump, .pump, .pump] ++ roundRobin 6) (PQ.init evs)
    s.queue = [[60, 97, 47, 62, 93, 93, 62, 93, 93, 62]] ∧
    s.todo = [[60, 98, 47, 62, 93, 93, 62, 93, 93, 62], [60, 99, 47, 62, 93, 93, 62, 93, 93, 62]] ∧
    s.delivered = [] ∧
    s'.delivered = [[60, 97, 47, 62, 93, 93, 62, 93, 93, 62], [60, 98, 47, 62, 93, 93, 62, 93, 93, 62],
                    [60, 99, 47, 62, 93, 93, 62, 93, 93, 62]] ∧
    s'.queue = [] ∧ s'.todo = [] ∧ s'.st = .running := by decide +kernel

/-- the same schedule as in `pumpq_nowait_cex`, with the code as it is (it waits): all three delivered -/
example :
    (PQ.run true 2 ([.pump, .pump, .pump, .pump] ++ roundRobin 8)
      (PQ.init [.data (wire [[60, 97, 47, 62], [60, 98, 47, 62], [60, 99, 47, 62]])])).delivered
    = [[60, 97, 47, 62, 93, 93, 62, 93, 93, 62], [60, 98, 47, 62, 93, 93, 62, 93, 93, 62],
       [60, 99, 47, 62, 93, 93, 62, 93, 93, 62]] := by decide +kernel

/-- **The variant that leaves the enqueue loop when the queue is full** (`try_reserve` + `break` instead of
`send(..).await`; it resumes only on the next `ChannelMsg::Data`): capacity 2, one packet with three
messages, then silence. The pump is polled before the consumer gets to run (4 polls), then the schedule
is fair for as long as one likes (here 8 rounds): the third message stays in `in_buf`, complete, and is
never delivered. -/
theorem pumpq_nowait_cex :
    let s := PQ.run false 2 ([.pump, .pump, .pump, .pump] ++ roundRobin 8)
      (PQ.init [.data (wire [[60, 97, 47, 62], [60, 98, 47, 62], [60, 99, 47, 62]])])
    s.delivered = [[60, 97, 47, 62, 93, 93, 62, 93, 93, 62], [60, 98, 47, 62, 93, 93, 62, 93, 93, 62]] ∧
    s.queue = [] ∧ s.todo = [] ∧ s.evs = [] ∧ s.st = .running ∧
    s.buf = [60, 99, 47, 62, 93, 93, 62, 93, 93, 62] := by decide +kernel

/-- `pumpq_nowait_cex` for every schedule, not only for 8 rounds: after those 4 polls *no* continuation whatsoever
delivers the third message (the consumer only ever sees the first two), and it stays in the buffer. -/
theorem pumpq_nowait_stranded (acts : List PQAct) :
    let s := PQ.run false 2 ([.pump, .pump, .pump, .pump] ++ acts)
      (PQ.init [.data (wire [[60, 97, 47, 62], [60, 98, 47, 62], [60, 99, 47, 62]])])
    s.delivered ++ s.queue = [[60, 97, 47, 62, 93, 93, 62, 93, 93, 62], [60, 98, 47, 62, 93, 93, 62, 93, 93, 62]] ∧
    s.buf = [60, 99, 47, 62, 93, 93, 62, 93, 93, 62] := by
  intro s
  -- after the four polls nothing is pending and no event is left: the pump is stuck with the third message in `buf`
  have h0 :
      let s0 := PQ.run false 2 [.pump, .pump, .pump, .pump]
        (PQ.init [.data (wire [[60, 97, 47, 62], [60, 98, 47, 62], [60, 99, 47, 62]])])
      s0.evs = [] ∧ s0.todo = [] ∧ s0.buf = [60, 99, 47, 62, 93, 93, 62, 93, 93, 62] ∧
      s0.delivered ++ s0.queue = [[60, 97, 47, 62, 93, 93, 62, 93, 93, 62], [60, 98, 47, 62, 93, 93, 62, 93, 93, 62]] := by
    decide +kernel
  have := PQ.stuck_run false 2 acts _ h0.1 h0.2.1
  rw [show s = PQ.run false 2 acts _ from PQ.run_append .., this.1, this.2]
  exact ⟨h0.2.2.2, h0.2.2.1⟩

/-! ### channel messages that are not data are invisible

RFC 4254 orders `exit-status`, window adjustments and extended data (stderr) in no way relative to the
data packets of a channel; only EOF and CLOSE end the byte stream. The SSH pump ignores them
(`ChanEv.other`), wherever they are interleaved. -/

/-- removing the non-data messages from a channel history -/
def dropOther : List ChanEv → List ChanEv
  | [] => []
  | .other :: evs => dropOther evs
  | e :: evs => e :: dropOther evs

/-- **any** interleaving of non-data channel messages (exit-status before the last data packets,
stderr in the middle of a message, …) leaves the delivered messages, the buffer and the end state of
the pump exactly as they are without them — for every configuration, history and initial buffer -/
theorem pump_other_invisible (c : PumpCfg) (evs : List ChanEv) (buf : List Byte) :
    pump c evs buf = pump c (dropOther evs) buf := by
  induction evs generalizing buf with
  | nil => rfl
  | cons e evs ih =>
    cases e with
    | data bs => simp only [pump, dropOther]; rw [ih]
    | eof => simp [pump, dropOther]
    | other => simp only [pump, dropOther]; exact ih buf
    | closed => simp [pump, dropOther]

/-- two pipelined replies with a non-data message (`exit-status`, say) between them, then EOF: the pump enqueues both.
On the same history with `.eof` in the place of `.other` it enqueues the first only. A pump that hung up on
`exit-status` as on EOF would treat the first history as this one treats the second, and lose a reply the server sent
before EOF; the model has no such pump, both runs are `pump .fixed`. -/
theorem exit_status_as_eof_cex :
    (pump .fixed [.data (wire [[60, 97, 47, 62]]), .other, .data (wire [[60, 98, 47, 62]]), .eof] []).1
      = [[60, 97, 47, 62, 93, 93, 62, 93, 93, 62], [60, 98, 47, 62, 93, 93, 62, 93, 93, 62]]
    ∧ (pump .fixed [.data (wire [[60, 97, 47, 62]]), .eof, .data (wire [[60, 98, 47, 62]]), .eof] []).1
      = [[60, 97, 47, 62, 93, 93, 62, 93, 93, 62]] := by decide +kernel

end Framing
