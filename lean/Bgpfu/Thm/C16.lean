import Bgpfu.Lemmas.Fetch
import Bgpfu.Lemmas.FetchTotal
/-!
# C16 — exactly the active, annotated, default-reject policy statements are managed

The theorems quantify over **all configurations of the grammar** (`Spec/ConfigGrammar.lean`, whose head says
what a statement's attribute list and body may be; also comments between the elements of every level and any
qualified names) and over **all oracles** `parseExpr` (the rpsl parser) and `unescape` (quick-xml). `readCandidates c` is the
event-level model of `Policies<Candidate>::read_xml` (`Model/Fetch.lean`): `.fixed` is the reader as it is in
/repo now (repair e3a951b: other content skips the statement; `<then>` accepted once), `.pinned` the pinned
snapshot. `select` is the specification (`Spec/ConfigGrammar.lean`).

A statement whose `bgpfu-fltr:` expression does not parse is *managed but never evaluated*
(`FExpr.malformed`, the C03 repair): it is selected with the raw text, so that its installed
policy is left alone; the expressions handed to the evaluator are exactly the parseable ones
(`parsed_iff_parseable`).
-/
namespace Xml

/-- **Refinement**: on every configuration of the grammar the event-level reader (either variant)
computes its child-level semantics. -/
theorem readCandidates_refines (c : FCfg) (parseExpr unescape : String → Option String) (cfg : Config)
    (hwf : cfg.WF unescape) (dataRaw : String) (rest : List Ev) :
    readCandidates c parseExpr unescape dataRaw (cfg.render dataRaw ++ rest)
      = poAbs (stmtAbs c parseExpr unescape) [] cfg.items := by
  unfold readCandidates
  apply policiesLoop_render (readCandidate c parseExpr unescape) (stmtAbs c parseExpr unescape) cfg
  · intro s hs fuel tail hf
    exact readCandidate_refines c parseExpr unescape s (hwf s hs) fuel tail hf
  · simp

/-- **C16, main statement.** For every configuration of the grammar, every attribute order and
duplication, every oracle: the repaired reader returns exactly the specified selection — the
managed (name, expression) pairs in document order, or the duplicate-name error. -/
theorem candidates_eq_select (parseExpr unescape : String → Option String) (cfg : Config)
    (hwf : cfg.WF unescape) (dataRaw : String) (rest : List Ev) :
    readCandidates .fixed parseExpr unescape dataRaw (cfg.render dataRaw ++ rest)
      = select parseExpr unescape cfg := by
  rw [readCandidates_refines .fixed parseExpr unescape cfg hwf]
  exact poAbs_select fun s hs => stmtAbs_fixed parseExpr unescape s (hwf s hs)

/-- what the pinned snapshot needs of a configuration: its `then`/body arms fail on anything else (fetch.rs:213-225) -/
def NoOtherContent (cfg : Config) : Prop :=
  ∀ s ∈ cfg.stmts, s.inactive = false → s.annotation.isSome → s.plain = true

/-- **C16 for the pinned snapshot (restricted).** Full statement (false, see the `_cex`
theorems below): `∀ cfg, cfg.WF unescape → readCandidates .pinned … (cfg.render …) = select … cfg`.
Proved: the same under the hypothesis that no annotated active statement has other content
(anything but one name, one `then` holding only `<reject/>`, comments). -/
theorem candidates_eq_select_pinned_partial (parseExpr unescape : String → Option String) (cfg : Config)
    (hwf : cfg.WF unescape) (hplain : NoOtherContent cfg) (dataRaw : String) (rest : List Ev) :
    readCandidates .pinned parseExpr unescape dataRaw (cfg.render dataRaw ++ rest)
      = select parseExpr unescape cfg := by
  rw [readCandidates_refines .pinned parseExpr unescape cfg hwf]
  exact poAbs_select fun s hs =>
    (stmtAbs_pinned_plain parseExpr unescape s (hplain s hs)).trans (stmtAbs_fixed parseExpr unescape s (hwf s hs))

/-- **Names and expressions are exactly those in the configuration**: every pair returned by the
repaired reader comes from an active, default-reject statement of the configuration; its name is
the unescaped text of that statement's only `<name>` element, its expression is `parseExpr` applied
to exactly the annotation text (after decoration stripping) of the statement's last annotation. -/
theorem names_exprs_exact (parseExpr unescape : String → Option String) (cfg : Config)
    (hwf : cfg.WF unescape) (dataRaw : String) (rest : List Ev) (l : List (String × FExpr))
    (h : readCandidates .fixed parseExpr unescape dataRaw (cfg.render dataRaw ++ rest) = .ok l)
    (n : String) (e : FExpr) (hm : (n, e) ∈ l) :
    ∃ s ∈ cfg.stmts, SelectedFrom parseExpr unescape s n e := by
  rw [candidates_eq_select parseExpr unescape cfg hwf] at h
  rw [select_ok h] at hm
  obtain ⟨s, hs, hsel⟩ := List.mem_filterMap.mp hm
  exact ⟨s, hs, selected_some parseExpr unescape s n e hsel⟩

/-- **Nothing is missed**: a successful read contains the pair of every statement `select` manages. -/
theorem every_managed_selected (parseExpr unescape : String → Option String) (cfg : Config)
    (hwf : cfg.WF unescape) (dataRaw : String) (rest : List Ev) (l : List (String × FExpr))
    (h : readCandidates .fixed parseExpr unescape dataRaw (cfg.render dataRaw ++ rest) = .ok l)
    (s : Stmt) (hs : s ∈ cfg.stmts) (x : String × FExpr) (hx : s.selected parseExpr unescape = some x) : x ∈ l := by
  rw [candidates_eq_select parseExpr unescape cfg hwf] at h
  rw [select_ok h]
  exact List.mem_filterMap.mpr ⟨s, hs, hx⟩

theorem parsed_iff_parseable (parseExpr : String → Option String) (raw d : String) :
    toFExpr parseExpr raw = .parsed d ↔ parseExpr raw = some d := by
  unfold toFExpr
  cases parseExpr raw <;> simp

/-- a statement that is not selected does not influence the result at all -/
theorem unselected_irrelevant (parseExpr unescape : String → Option String) (cfg : Config)
    (pre post : List PoItem) (s : Stmt) (hitems : cfg.items = pre ++ .stmt s :: post)
    (hwf : cfg.WF unescape) (hsel : s.selected parseExpr unescape = none) (dataRaw : String) (rest : List Ev) :
    readCandidates .fixed parseExpr unescape dataRaw (cfg.render dataRaw ++ rest)
      = readCandidates .fixed parseExpr unescape dataRaw ({ cfg with items := pre ++ post }.render dataRaw ++ rest) := by
  have hst : cfg.stmts = stmtsOf pre ++ s :: stmtsOf post := by simp [Config.stmts, hitems, stmtsOf]
  have hst' : ({ cfg with items := pre ++ post } : Config).stmts = stmtsOf pre ++ stmtsOf post := by
    simp [Config.stmts, stmtsOf]
  have hwf' : ({ cfg with items := pre ++ post } : Config).WF unescape := fun x hx =>
    hwf x (by
      rw [hst'] at hx
      rw [hst]
      exact List.mem_append.mpr ((List.mem_append.mp hx).imp_right (List.mem_cons_of_mem _)))
  rw [candidates_eq_select parseExpr unescape cfg hwf, candidates_eq_select parseExpr unescape _ hwf']
  simp only [select, hst, hst', List.filterMap_append, List.filterMap_cons, hsel]

/-- **Inactive statements are never selected**: whatever else its attributes (in whatever order) and
its body are, a statement with a `jcmd:active="false"` attribute is not managed and does not change
the result. -/
theorem inactive_never_selected (parseExpr unescape : String → Option String) (cfg : Config)
    (pre post : List PoItem) (s : Stmt) (hitems : cfg.items = pre ++ .stmt s :: post)
    (hwf : cfg.WF unescape) (hin : s.inactive = true) (dataRaw : String) (rest : List Ev) :
    readCandidates .fixed parseExpr unescape dataRaw (cfg.render dataRaw ++ rest)
      = readCandidates .fixed parseExpr unescape dataRaw ({ cfg with items := pre ++ post }.render dataRaw ++ rest) :=
  unselected_irrelevant parseExpr unescape cfg pre post s hitems hwf (by simp [Stmt.selected, hin]) dataRaw rest

/-- **Statements without the annotation are never selected**: a statement none of whose `jcmd:comment`
attributes holds a text of the form `bgpfu-fltr: …` is not managed and does not change the result. -/
theorem unannotated_never_selected (parseExpr unescape : String → Option String) (cfg : Config)
    (pre post : List PoItem) (s : Stmt) (hitems : cfg.items = pre ++ .stmt s :: post)
    (hwf : cfg.WF unescape) (hann : s.annotation = none) (dataRaw : String) (rest : List Ev) :
    readCandidates .fixed parseExpr unescape dataRaw (cfg.render dataRaw ++ rest)
      = readCandidates .fixed parseExpr unescape dataRaw ({ cfg with items := pre ++ post }.render dataRaw ++ rest) :=
  unselected_irrelevant parseExpr unescape cfg pre post s hitems hwf
    (by unfold Stmt.selected; split <;> simp [hann]) dataRaw rest

/-- **Statements with other content are never selected** — and, with the repair, do not disturb the
selection of the other statements. -/
theorem other_content_never_selected (parseExpr unescape : String → Option String) (cfg : Config)
    (pre post : List PoItem) (s : Stmt) (hitems : cfg.items = pre ++ .stmt s :: post)
    (hwf : cfg.WF unescape) (hother : s.defaultReject = false) (dataRaw : String) (rest : List Ev) :
    readCandidates .fixed parseExpr unescape dataRaw (cfg.render dataRaw ++ rest)
      = readCandidates .fixed parseExpr unescape dataRaw ({ cfg with items := pre ++ post }.render dataRaw ++ rest) :=
  unselected_irrelevant parseExpr unescape cfg pre post s hitems hwf
    (by unfold Stmt.selected; split
        · rfl
        · split <;> simp [hother]) dataRaw rest

/-! ### attribute order

A statement's attributes may come in any order (`jcmd:active` before or after `jcmd:comment`,
namespace declarations anywhere); XML gives the order no meaning. With at most one annotation — an
element cannot carry the same attribute twice — the selection is the same for every order. -/

theorem selected_attr_perm (parseExpr unescape : String → Option String) (s : Stmt) (attrs' : List Attr)
    (hp : s.attrs.Perm attrs') (h1 : s.annotations.length ≤ 1) :
    Stmt.selected parseExpr unescape { s with attrs := attrs' } = Stmt.selected parseExpr unescape s := by
  have hin : ({ s with attrs := attrs' } : Stmt).inactive = s.inactive := by
    simp only [Stmt.inactive]
    exact (List.Perm.any_eq hp).symm
  have hpa : s.annotations.Perm ({ s with attrs := attrs' } : Stmt).annotations := by
    simp only [Stmt.annotations]
    exact List.Perm.filterMap _ hp
  have han : ({ s with attrs := attrs' } : Stmt).annotations = s.annotations := by
    generalize ha : s.annotations = l at hpa h1
    generalize ({ s with attrs := attrs' } : Stmt).annotations = l' at hpa
    match l, h1 with
    | [], _ => exact (List.Perm.nil_eq hpa).symm
    | [x], _ => exact (List.perm_singleton.mp hpa.symm)
    | _ :: _ :: _, h => simp at h
  have hann : ({ s with attrs := attrs' } : Stmt).annotation = s.annotation := by
    simp only [Stmt.annotation, han]
  simp only [Stmt.selected, hin, hann]
  rfl

/-- … hence so is what the reader returns for the whole configuration: reordering the attributes of
any one statement (here: the statement `s` between `pre` and `post`) changes nothing -/
theorem readCandidates_attr_order (parseExpr unescape : String → Option String) (cfg : Config)
    (pre post : List PoItem) (s : Stmt) (attrs' : List Attr)
    (hitems : cfg.items = pre ++ .stmt s :: post) (hwf : cfg.WF unescape)
    (hp : s.attrs.Perm attrs') (h1 : s.annotations.length ≤ 1) (dataRaw : String) (rest : List Ev) :
    readCandidates .fixed parseExpr unescape dataRaw
        ({ cfg with items := pre ++ PoItem.stmt { s with attrs := attrs' } :: post }.render dataRaw ++ rest)
      = readCandidates .fixed parseExpr unescape dataRaw (cfg.render dataRaw ++ rest) := by
  have hst : cfg.stmts = stmtsOf pre ++ s :: stmtsOf post := by simp [Config.stmts, hitems, stmtsOf]
  have hst' : ({ cfg with items := pre ++ PoItem.stmt { s with attrs := attrs' } :: post } : Config).stmts
      = stmtsOf pre ++ { s with attrs := attrs' } :: stmtsOf post := by simp [Config.stmts, stmtsOf]
  have hs : s.WF unescape := hwf s (by rw [hst]; simp)
  have hwf' : ({ cfg with items := pre ++ PoItem.stmt { s with attrs := attrs' } :: post } : Config).WF unescape := by
    intro x hx
    rw [hst'] at hx
    rcases List.mem_append.mp hx with h | h
    · exact hwf x (by rw [hst]; exact List.mem_append.mpr (Or.inl h))
    · rcases List.mem_cons.mp h with rfl | h
      · exact ⟨fun a ha => hs.attrs a (hp.mem_iff.mpr ha), hs.body, hs.inert, hs.keyed⟩
      · exact hwf x (by rw [hst]; exact List.mem_append.mpr (Or.inr (List.mem_cons_of_mem _ h)))
  rw [candidates_eq_select parseExpr unescape cfg hwf, candidates_eq_select parseExpr unescape _ hwf']
  simp only [select, hst, hst', List.filterMap_append, List.filterMap_cons,
    selected_attr_perm parseExpr unescape s attrs' hp h1]

/-- any element, empty element, text or CDATA next to name / `then` makes a statement "other content"
(a second name, a second `then` or a `then` holding anything but `<reject/>` do so by the definition of
`Stmt.defaultReject`) -/
theorem other_item_not_defaultReject (s : Stmt) (h : s.body.any BodyItem.isOther = true) : s.defaultReject = false := by
  simp [Stmt.defaultReject, h]

/-- **Totality** (every event list, grammar document or not, either variant): the reader model never
runs out of fuel — `evs.length + 1` loop iterations always suffice. -/
theorem readCandidates_total (c : FCfg) (parseExpr unescape : String → Option String) (dataRaw : String) (evs : List Ev) :
    readCandidates c parseExpr unescape dataRaw evs ≠ .error .fuel :=
  policiesLoop_total _ (readCandidate_good c parseExpr unescape) _ _ _ _ (Nat.lt_succ_self _)

/-! ### non-vacuity: a configuration mixing all statement kinds -/

def jcmdNs : Attr := { key := "xmlns:jcmd", ns := .bound "http://www.w3.org/2000/xmlns/", lname := "jcmd", value := some JCMD }
def jcmdComment (v : String) : Attr := { key := "jcmd:comment", ns := .bound JCMD, lname := "comment", value := some v }
def jcmdActive (v : String) : Attr := { key := "jcmd:active", ns := .bound JCMD, lname := "active", value := some v }
def junosChanged : Attr := { key := "junos:changed-seconds", ns := .unknown, lname := "changed-seconds", value := some "1" }

def nameItem (s : String) : BodyItem := .name "name" [] s [.text s]
def rejectItem : ThenItem := .empty (xnmTag "reject" "reject" [] none)
def acceptItem : ThenItem := .empty (xnmTag "accept" "accept" [] none)
def thenReject : BodyItem := .then_ "then" [] none [rejectItem]
def termItem : BodyItem :=
  .elem (xnmTag "term" "term" [] none)
    [.start (xnmTag "name" "name" [] (some "t")), .text "t", .end "name",
     .start (xnmTag "then" "then" [] none), .empty (xnmTag "accept" "accept" [] none), .end "then"]

def exStmt (attrs : List Attr) (body : List BodyItem) : PoItem :=
  .stmt { raw := "policy-statement", attrs := attrs, span := none, body := body }

def exParse (s : String) : Option String :=
  if s == " AS-FOO" then some "AS-FOO" else if s == " AS-BAR & { 10.0.0.0/8^+ }" then some "AS-BAR AND {10.0.0.0/8^+}" else none
def exUnescape (s : String) : Option String := if s == "a&amp;b" then some "a&b" else some s

def exItems : List PoItem :=
  [ -- managed; duplicate xmlns:jcmd, unrelated attribute, comment inside
    exStmt [jcmdNs, junosChanged, jcmdNs, jcmdComment "/* bgpfu-fltr: AS-FOO */"] [nameItem "fltr-foo", .comment, thenReject],
    .comment,
    -- inactive, attribute before the annotation
    exStmt [jcmdNs, jcmdActive "false", jcmdNs, jcmdComment "/* bgpfu-fltr: AS-FOO */"] [nameItem "off-1", thenReject],
    -- inactive, attribute after the annotation; arbitrary body
    exStmt [jcmdNs, jcmdComment "/* bgpfu-fltr: AS-FOO */", jcmdActive "false"] [nameItem "off-2", termItem],
    -- not annotated
    exStmt [] [nameItem "plain", termItem, .then_ "then" [] none [acceptItem]],
    -- a comment that is not an annotation
    exStmt [jcmdNs, jcmdComment "/* managed by hand */"] [nameItem "hand", thenReject],
    -- annotated, but with a term: other content
    exStmt [jcmdNs, jcmdComment "/* bgpfu-fltr: AS-FOO */"] [nameItem "mixed", termItem, thenReject],
    -- annotated, `then accept`
    exStmt [jcmdNs, jcmdComment "/* bgpfu-fltr: AS-FOO */"] [nameItem "acc", .then_ "then" [] none [acceptItem]],
    -- annotated, two `then`
    exStmt [jcmdNs, jcmdComment "/* bgpfu-fltr: AS-FOO */"] [nameItem "two", .then_ "then" [] none [], thenReject],
    -- escaped characters in name and expression, `/** … **/` decoration, active="true", last annotation wins
    exStmt [jcmdActive "true", jcmdComment "bgpfu-fltr: AS-OLD", jcmdNs, jcmdComment "/** bgpfu-fltr: AS-BAR & { 10.0.0.0/8^+ } **/"]
      [thenReject, nameItem "a&amp;b"],
    -- malformed expression: managed, not evaluable
    exStmt [jcmdNs, jcmdComment "bgpfu-fltr: AS-FOO AND"] [nameItem "broken", thenReject] ]

def exCfg (items : List PoItem) : Config :=
  { confRaw := "configuration", confAttrs := [], confSpan := none, poRaw := "policy-options", poAttrs := [],
    poSpan := none, items := items, c1 := 1, c4 := 2 }

example : (exCfg exItems).WF exUnescape := by decide +kernel

/-- the repaired reader on the mixed configuration: exactly the three managed statements -/
example : readCandidates .fixed exParse exUnescape "data" ((exCfg exItems).render "data" ++ [.end "rpc-reply", .eof])
    = .ok [("fltr-foo", .parsed "AS-FOO"), ("a&b", .parsed "AS-BAR AND {10.0.0.0/8^+}"), ("broken", .malformed "AS-FOO AND")] := by
  decide +kernel

example : select exParse exUnescape (exCfg exItems)
    = .ok [("fltr-foo", .parsed "AS-FOO"), ("a&b", .parsed "AS-BAR AND {10.0.0.0/8^+}"), ("broken", .malformed "AS-FOO AND")] := by
  decide +kernel

/-- the restricted theorem is not vacuous either: a configuration satisfying `NoOtherContent` with
managed, inactive and unannotated statements -/
def exPlainItems : List PoItem := [exItems[0], exItems[2], exItems[3], exItems[4], exItems[9], exItems[10]]
example : (exCfg exPlainItems).WF exUnescape ∧ NoOtherContent (exCfg exPlainItems) := by
  unfold NoOtherContent; decide +kernel
example : readCandidates .pinned exParse exUnescape "data" ((exCfg exPlainItems).render "data")
    = .ok [("fltr-foo", .parsed "AS-FOO"), ("a&b", .parsed "AS-BAR AND {10.0.0.0/8^+}"), ("broken", .malformed "AS-FOO AND")] := by
  decide +kernel

/-- two managed statements of the same name: error -/
example : readCandidates .fixed exParse exUnescape "data" ((exCfg [exItems[0], exItems[0]]).render "data") = .error .other := by
  decide +kernel
/-- … but a managed and an unmanaged one of the same name: fine -/
example : readCandidates .fixed exParse exUnescape "data"
    ((exCfg [exItems[0], exStmt [] [nameItem "fltr-foo", thenReject]]).render "data") = .ok [("fltr-foo", .parsed "AS-FOO")] := by
  decide +kernel

/-! ### counter-examples for the pinned snapshot (`.pinned`) -/

/-- **Deviation 1 (`other-content-fails-read`).** One annotated statement that also holds a term
makes the whole read fail: the well-formed managed statement next to it is lost, i.e. no policy is
updated at all. The full statement for `.pinned` is false. -/
theorem other_content_fails_read_cex :
    ∃ (cfg : Config), cfg.WF exUnescape ∧
      select exParse exUnescape cfg = .ok [("fltr-foo", .parsed "AS-FOO")] ∧
      readCandidates .pinned exParse exUnescape "data" (cfg.render "data") = .error .unexpected ∧
      readCandidates .fixed exParse exUnescape "data" (cfg.render "data") = .ok [("fltr-foo", .parsed "AS-FOO")] :=
  ⟨exCfg [exItems[0], exItems[6]], by decide +kernel⟩

/-- the same with `then accept` instead of a term -/
theorem then_accept_fails_read_cex :
    ∃ (cfg : Config), cfg.WF exUnescape ∧
      select exParse exUnescape cfg = .ok [("fltr-foo", .parsed "AS-FOO")] ∧
      readCandidates .pinned exParse exUnescape "data" (cfg.render "data") = .error .unexpected :=
  ⟨exCfg [exItems[0], exItems[7]], by decide +kernel⟩

/-- **Deviation 2 (`extra-then-selected`).** `<then></then><then><reject/></then>`: the guard of the
`then` arm is `!reject_policy`, so a second `then` is read when the first one held no reject; the
statement is selected although it does not consist of one default reject action. -/
theorem extra_then_selected_cex :
    ∃ (cfg : Config), cfg.WF exUnescape ∧
      select exParse exUnescape cfg = .ok [] ∧
      readCandidates .pinned exParse exUnescape "data" (cfg.render "data") = .ok [("two", .parsed "AS-FOO")] :=
  ⟨exCfg [exItems[8]], by decide +kernel⟩

end Xml
