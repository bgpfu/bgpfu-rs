import Bgpfu.Lemmas.ReaderLoops
import Bgpfu.Lemmas.Hello
import Bgpfu.Lemmas.FetchRename
import Bgpfu.Lemmas.ReplyAbs
/-!
# C13 — parsing is invariant under XML-equivalent serialisations of a message

What is decided here, on the event level (the level the readers work at):
* comments between children, at every level of the reply and hello grammars — **invariant**
  (theorems over all grammar documents);
* an XML declaration in front of the message — **invariant** (theorem over all event lists);
* whitespace around token-valued leaf text — **invariant** (theorem over all strings);
* `<x/>` versus `<x></x>` — **not invariant** for the positive indications the readers match as
  `Event::Empty` only (`…_cex`, recorded as known findings);
* a comment *inside* a leaf's text — **not invariant** (the leaf is read as the raw source span).
* namespace-prefix choice (prefix vs default namespace, another prefix for the same namespace):
  in the event list it is a renaming of the raw qualified names of elements — **invariant** for
  every reader (replies, hello, the agent's candidate and installed-policies readers), every event
  list and every injective renaming (`readLoop_rename` in `Lemmas/ElemLoop.lean` for the message readers,
  `Lemmas/FetchRename.lean` for the agent's readers). That quick-xml
  maps a prefix rewrite of the text to exactly such a renaming is tested (`meta` op), not proved.
* comments before and after the root element (XML `document ::= prolog element Misc*`) —
  **invariant** (theorems over all event lists, every configuration; `readLoop_trail`, `readDoc_trail`,
  `readDoc_lead` in `Lemmas/ElemLoop.lean`); white space there is trimmed away by the tokenizer, so comments are
  the only `Misc` items that reach the readers unchanged in meaning (a PI is part of the infoset, not an
  equivalent rewrite; at document level it is rejected: `trailing_pi_cex`).
Inter-element whitespace, attribute order and quoting are rewrites the tokenizer absorbs: they are
invisible in the event list, so they are covered by the metamorphic correspondence run (`meta` op)
only — that part is testing.
-/
namespace Xml

/-! ### comments -/

/-- **Comments between the children of `<rpc-reply>` make no difference** to the child-level semantics
`replyAbs` of the readers — for every reply type, every list of children, every insertion position. (The
real reader computes `replyAbs` on the documents of the grammar, `reply_refines`; the next theorem puts the
two together.) -/
theorem reply_comment_invariant (c : RCfg) (k : ReplyKind) (a b : List Top) :
    replyAbs c k (a ++ .comment :: b) = replyAbs c k (a ++ b) := by
  cases k <;> simp only [replyAbs]
  · exact emptyAbs_comment _ _ _ _
  · exact dataAbs_comment _ _ _ _
  · exact bareAbs_comment _ _ _
  · exact loadAbs_comment _ _ _ _

/-- the same about the real reader `readMessage` on the rendered event lists, for well-formed children -/
theorem readMessage_comment_invariant (c : RCfg) (k : ReplyKind) (raw idAttr : String) (extra : List AttrItem)
    (a b : List Top) (id : Nat) (hid : parseUsize idAttr = some id) (hwf : ∀ x ∈ a ++ b, x.WF)
    (hin : Inert raw ((a ++ b).flatMap Top.render)) :
    readMessage c k (replyDoc raw idAttr extra (a ++ .comment :: b))
      = readMessage c k (replyDoc raw idAttr extra (a ++ b)) := by
  have hwf' : ∀ x ∈ a ++ .comment :: b, x.WF := by
    rw [List.forall_mem_append] at hwf ⊢
    exact ⟨hwf.1, List.forall_mem_cons.mpr ⟨trivial, hwf.2⟩⟩
  have hin' : Inert raw ((a ++ .comment :: b).flatMap Top.render) := by
    simp only [List.flatMap_append, List.flatMap_cons, Top.render, List.singleton_append] at hin ⊢
    exact (inert_comment raw _ _).mpr hin
  rw [readMessage_doc c k raw idAttr extra _ id hid hwf' hin',
      readMessage_doc c k raw idAttr extra _ id hid hwf hin, reply_comment_invariant]

/-- comments between the children of `<load-configuration-results>`: again about `replyAbs` -/
theorem load_results_comment_invariant (c : RCfg) (pre post : List Top) (r : String) (a b : List Inner) :
    replyAbs c .load (pre ++ .results r (a ++ .comment :: b) :: post)
      = replyAbs c .load (pre ++ .results r (a ++ b) :: post) := by
  simp only [replyAbs]; exact loadAbs_inner_comment _ _ _ _ _ _ _

/-- **Comments in a hello make no difference** to the child-level semantics `establishAbs .fixed` of session
establishment (/repo now) — between the children of `<hello>` and between the `<capability>` elements.
These two statements are about the abstract reader only; `establish` computes it on the documents of the
hello grammar (`establish_doc`), no theorem here puts the two together. -/
theorem hello_comment_invariant (adv : Bool) (o : UriOracle) (a b : List HChild) :
    establishAbs .fixed adv o (a ++ .comment :: b) = establishAbs .fixed adv o (a ++ b) := by
  simp only [establishAbs, helloAbs_child_comment]

theorem hello_caps_comment_invariant (adv : Bool) (o : UriOracle) (pre post : List HChild) (r : String)
    (a b : List CapLeaf) :
    establishAbs .fixed adv o (pre ++ .caps r (a ++ .comment :: b) :: post)
      = establishAbs .fixed adv o (pre ++ .caps r (a ++ b) :: post) := by
  simp only [establishAbs, helloAbs_caps_comment .fixed rfl]

/-! ### XML declaration -/

/-- **An XML declaration in front of a reply makes no difference** — for every event list. -/
theorem reply_decl_invariant (k : ReplyKind) (evs : List Ev) :
    readMessage .fixed k (.decl :: evs) = readMessage .fixed k evs := by
  simp only [readMessage, phase2, readPartial_eq, fromXmlReply_eq, readDoc_skip (declArm := RCfg.fixed.declArm) .decl rfl]

/-- and in front of a hello -/
theorem hello_decl_invariant (adv : Bool) (o : UriOracle) (evs : List Ev) :
    establish .fixed adv o (.decl :: evs) = establish .fixed adv o evs := by
  simp only [establish, fromXmlHello_eq, readDoc_skip (declArm := RCfg.fixed.declArm) .decl rfl]

/-! ### whitespace around token-valued text -/

def allWs (l : List Char) : Prop := ∀ c ∈ l, isWs c = true

/-- **Whitespace around a token makes no difference to a trimmed leaf**: for all texts and all
whitespace paddings (Rust `char::is_whitespace`). -/
theorem trim_pad_invariant (w₁ l w₂ : List Char) (h₁ : allWs w₁) (h₂ : allWs w₂) :
    trimL (w₁ ++ l ++ w₂) = trimL l := by
  have hend : ∀ x : List Char, trimEnd (x ++ w₂) = trimEnd x := fun x => by
    simp only [trimEnd, List.reverse_append, List.dropWhile_append_of_pos (fun c hc => h₂ c (List.mem_reverse.mp hc))]
  simp only [trimL, trimStart, List.append_assoc, List.dropWhile_append_of_pos h₁, List.dropWhile_append]
  split
  · rename_i he
    rw [List.isEmpty_iff.mp he, ← List.append_nil w₂, List.dropWhile_append_of_pos h₂]; rfl
  · exact hend _

/-- String-level corollary: the token a leaf is parsed from (current code) ignores padding. -/
theorem tok_pad_invariant (w₁ w₂ : List Char) (s : String) (h₁ : allWs w₁) (h₂ : allWs w₂) :
    RCfg.fixed.tok (String.ofList (w₁ ++ s.toList ++ w₂)) = RCfg.fixed.tok s := by
  simp only [RCfg.tok, RCfg.fixed, if_true, trim, String.toList_ofList, trim_pad_invariant _ _ _ h₁ h₂]

/-! ### the pinned snapshot, and what is still not invariant -/

theorem decl_pinned_cex : readMessage .pinned .bare (.decl :: replyDoc "rpc-reply" "1" [] []) = .err .unexpected
    ∧ readMessage .pinned .bare (replyDoc "rpc-reply" "1" [] []) = .ok := by decide +kernel

theorem pad_session_id_pinned_cex :
    parseSessionId (RCfg.pinned.tok "\n 7 ") = none ∧ parseSessionId (RCfg.fixed.tok "\n 7 ") = some 7 := by
  decide +kernel

/-- **Known finding**: the positive indication `<ok></ok>` (start + end instead of the empty-element
form) is rejected by the current code. -/
theorem empty_form_ok_cex :
    readMessage .fixed .empty (replyDoc "rpc-reply" "1" [] [.ok]) = .ok ∧
    readMessage .fixed .empty
      ([.start (replyTag "rpc-reply" "1" []), .start okTag, .end "ok", .end "rpc-reply", .eof]) = .err .unexpected := by
  decide +kernel

/-- **Known finding**: a bare reply written `<rpc-reply …/>` is rejected (only `Event::Start` is matched). -/
theorem empty_form_root_cex :
    readMessage .fixed .bare (replyDoc "rpc-reply" "1" [] []) = .ok ∧
    readMessage .fixed .bare [.empty (replyTag "rpc-reply" "1" []), .eof] = .err .unexpected := by
  decide +kernel

/-- **Known finding**: a comment inside a leaf's text changes the raw span the leaf is parsed from. -/
theorem comment_in_text_cex :
    parseSessionId (RCfg.fixed.tok "4711") = some 4711 ∧ parseSessionId (RCfg.fixed.tok "4711<!-- c -->") = none := by
  decide +kernel

/-! ### namespace-prefix choice: renaming of raw qualified names

Writing an element with another prefix for the same namespace URI (or with the default namespace
instead of a prefix) changes, in the event list, exactly the raw qualified names: `Tag.raw` of
`Start`/`Empty` events and the name of `End` events; the namespace resolution result, the local
name, the attributes and the source span stay. `renameEvs f` (Lemmas/Rename.lean) is that rewrite
for an arbitrary renaming `f`. Two different raw names of the original document must stay
different (`f` injective) — a prefix rewrite `p:local ↦ q:local` is.

Every reader is invariant, for **every event list** (not only documents of a grammar), every
configuration (pinned and repaired code) and every oracle. What stays tested only: that
quick-xml's namespace resolution maps a prefix rewrite of the source text to exactly such a
renaming of the event list. -/

/-- **The prefix chosen for element names makes no difference to a reply**: both parse phases,
the message-id cross-check and `into_result` give the same outcome — for every reply type, every
event list and every injective renaming of raw element names. -/
theorem reply_rename_invariant (f : String → String) (hf : ∀ a b, f a = f b → a = b)
    (c : RCfg) (k : ReplyKind) (evs : List Ev) :
    readMessage c k (renameEvs f evs) = readMessage c k evs :=
  readMessage_rename hf c k evs

/-- … nor to session establishment from the server's `<hello>` (for every URI oracle). -/
theorem hello_rename_invariant (f : String → String) (hf : ∀ a b, f a = f b → a = b)
    (c : RCfg) (adv : Bool) (o : UriOracle) (evs : List Ev) :
    establish c adv o (renameEvs f evs) = establish c adv o evs :=
  establish_rename hf c adv o evs

/-- … nor to the agent's reader of candidate policies (`agent::verif::read_candidates` on a whole
reply document), for every rpsl-parser and unescape oracle. -/
theorem candidates_rename_invariant (f : String → String) (hf : ∀ a b, f a = f b → a = b)
    (c : FCfg) (parseExpr unescape : String → Option String) (evs : List Ev) :
    readCandidatesDoc c parseExpr unescape (renameEvs f evs) = readCandidatesDoc c parseExpr unescape evs :=
  readCandidatesDoc_rename hf c parseExpr unescape evs

/-- the same for `Policies<Candidate>::read_xml` entered right after `<data>` (the entry point the
C16 theorems are stated on); the name of the `<data>` element is renamed too -/
theorem candidates_data_rename_invariant (f : String → String) (hf : ∀ a b, f a = f b → a = b)
    (c : FCfg) (parseExpr unescape : String → Option String) (dataRaw : String) (evs : List Ev) :
    readCandidates c parseExpr unescape (f dataRaw) (renameEvs f evs) = readCandidates c parseExpr unescape dataRaw evs :=
  readCandidates_rename hf c parseExpr unescape dataRaw evs

/-- … nor to the agent's reader of installed policies (`agent::verif::read_installed`), for every
unescape / prefix / prefix-length oracle. -/
theorem installed_rename_invariant (f : String → String) (hf : ∀ a b, f a = f b → a = b)
    (o : IOracle) (evs : List Ev) :
    readInstalledDoc o (renameEvs f evs) = readInstalledDoc o evs :=
  readInstalledDoc_rename hf o evs

/-- the same for `Policies<Installed>::read_xml` entered right after `<data>` -/
theorem installed_data_rename_invariant (f : String → String) (hf : ∀ a b, f a = f b → a = b)
    (o : IOracle) (dataRaw : String) (evs : List Ev) :
    readInstalledEv o (f dataRaw) (renameEvs f evs) = readInstalledEv o dataRaw evs :=
  readInstalledEv_rename hf o dataRaw evs

/-- Injectivity cannot be dropped for arbitrary event lists: a renaming that identifies two raw
names can make a stray end tag match (such a list is not the tokenisation of a well-formed
document: quick-xml checks end names). -/
theorem rename_noninjective_cex :
    readMessage .fixed .bare [.start (replyTag "rpc-reply" "1" []), .end "x", .eof] = .err .unexpected ∧
    readMessage .fixed .bare (renameEvs (fun _ => "x") [.start (replyTag "rpc-reply" "1" []), .end "x", .eof]) = .ok := by
  decide +kernel

/-- the renaming `local ↦ nc:local` (writing the base namespace with the prefix `nc` instead of as
the default namespace) -/
def ncPrefix (s : String) : String := "nc:" ++ s

theorem ncPrefix_injective : ∀ a b, ncPrefix a = ncPrefix b → a = b := by
  intro a b h
  simpa [ncPrefix] using h

/-- what `renameEvs ncPrefix` produces: the twin document with `nc:rpc-reply`, `nc:ok` -/
example :
    renameEvs ncPrefix (replyDoc "rpc-reply" "1" [] [.ok])
      = [.start (replyTag "nc:rpc-reply" "1" []), .empty { okTag with raw := "nc:ok" }, .end "nc:rpc-reply", .eof] := by
  decide +kernel

/-- non-vacuity: `<nc:rpc-reply message-id="1"><nc:ok/></nc:rpc-reply>` and its unprefixed twin both
read to `ok` -/
example :
    readMessage .fixed .empty
      [.start (replyTag "nc:rpc-reply" "1" []), .empty { okTag with raw := "nc:ok" }, .end "nc:rpc-reply", .eof] = .ok ∧
    readMessage .fixed .empty (replyDoc "rpc-reply" "1" [] [.ok]) = .ok := by
  decide +kernel

/-- non-vacuity through the theorem: a `<data>` reply prefixed by `renameEvs ncPrefix` reads to the value of
the unprefixed document -/
example :
    readMessage .fixed .data (renameEvs ncPrefix (replyDoc "rpc-reply" "7" [] [.data "<a/>" [.empty (baseTag "a" none)]]))
      = .data "<a/>" := by
  rw [reply_rename_invariant ncPrefix ncPrefix_injective]; decide +kernel

/-- the same, by evaluation -/
example :
    readMessage .fixed .data (renameEvs ncPrefix (replyDoc "rpc-reply" "7" [] [.data "<a/>" [.empty (baseTag "a" none)]]))
      = .data "<a/>" := by
  decide +kernel

/-- non-vacuity, hello: `<nc:hello><nc:capabilities><nc:capability>…` establishes the same session -/
example :
    (establish .fixed false
        (fun _ => some { scheme := "urn", authority := none, path := "ietf:params:netconf:base:1.0", query := none,
                         fragment := none })
      (renameEvs ncPrefix
        (helloDoc "hello" [] [.caps "capabilities" [.cap "urn:ietf:params:netconf:base:1.0" []], .sid "4711" []]))).toOption
      = some { sid := 4711, version := .v10, serverCaps := [.base10] } := by
  decide +kernel

/-- a reply carrying one annotated default-reject policy, all element names unprefixed -/
def exCandidateReply : List Ev :=
  let x (n : String) (attrs : List AttrItem) (sp : Option String) : Tag :=
    { ns := .bound XNM, lname := n, raw := n, attrs := attrs, span := sp }
  [.start (replyTag "rpc-reply" "1" []), .start (baseTag "data" none),
   .start (x "configuration" [] none), .start (x "policy-options" [] none),
   .start (x "policy-statement"
      [.ok { key := "jcmd:comment", ns := .bound JCMD, lname := "comment", value := some "/* bgpfu-fltr:AS-FOO */" }] none),
   .start (x "name" [] (some "fltr-foo")), .text "fltr-foo", .end "name",
   .start (x "then" [] none), .empty (x "reject" [] none), .end "then",
   .end "policy-statement", .end "policy-options", .end "configuration", .end "data", .end "rpc-reply", .eof]

/-- non-vacuity, agent: the prefixed twin (`nc:data`, `nc:configuration`, `nc:policy-statement`, …)
yields the same candidate -/
example :
    (readCandidatesDoc .fixed some some (renameEvs ncPrefix exCandidateReply)).toOption
      = some [("fltr-foo", .parsed "AS-FOO")] ∧
    (readCandidatesDoc .fixed some some exCandidateReply).toOption = some [("fltr-foo", .parsed "AS-FOO")] := by
  decide +kernel

/-! ### `Misc` around the root element: comments before `<rpc-reply>` / `<hello>` and after the end tag

XML allows `Misc*` (comments, white space, PIs) in the prolog and after the root element. White
space between markup never reaches the event list (`trim_text(true)`), so on the event level the
rewrite is: some `Comment` events in front of the list, and some between the root's `End` event and
the final `Eof`. Both are invisible to both parse phases — for **every event list**, every
configuration (pinned and repaired code) and every number of comments; the statements about the
grammar documents (`replyDocMisc`, `helloDocMisc`) are corollaries and need no well-formedness
hypothesis. Lemmas: `Lemmas/ElemLoop.lean` (`readLoop_mono`: more fuel, same result; `readLoop_trail`: what a
reader loop makes of the list with the insertion is one of three things (`Trails`): out of fuel, the same with
the insertion handed on in the rest, or the same; `readDoc_trail`: with the fuel of its own length the first
does not arise and the message loops ignore the rest). -/

/-- **A comment in front of a reply makes no difference** — both parse phases, the message-id
cross-check and `into_result`; every configuration, every reply type, every event list. -/
theorem reply_leading_comment_invariant (c : RCfg) (k : ReplyKind) (evs : List Ev) :
    readMessage c k (.comment :: evs) = readMessage c k evs :=
  readMessage_lead c k 1 evs

/-- … nor do any number of them -/
theorem reply_leading_comments_invariant (c : RCfg) (k : ReplyKind) (n : Nat) (evs : List Ev) :
    readMessage c k (List.replicate n .comment ++ evs) = readMessage c k evs :=
  readMessage_lead c k n evs

/-- **A comment in front of the server's hello makes no difference to session establishment.** -/
theorem hello_leading_comment_invariant (c : RCfg) (adv : Bool) (o : UriOracle) (evs : List Ev) :
    establish c adv o (.comment :: evs) = establish c adv o evs :=
  establish_lead c adv o 1 evs

theorem hello_leading_comments_invariant (c : RCfg) (adv : Bool) (o : UriOracle) (n : Nat) (evs : List Ev) :
    establish c adv o (List.replicate n .comment ++ evs) = establish c adv o evs :=
  establish_lead c adv o n evs

/-- **Comments between the end of the message body and the end of input make no difference to a
reply** — for every event list `body ++ [Eof]` (in particular: whatever `body` is, well-formed
or not, complete or cut short), every number of comments, every configuration and reply type. -/
theorem reply_trailing_comments_invariant (c : RCfg) (k : ReplyKind) (n : Nat) (body : List Ev) :
    readMessage c k (body ++ List.replicate n .comment ++ [.eof]) = readMessage c k (body ++ [.eof]) := by
  show readMessage c k (body ++ comments n ++ [.eof]) = _
  rw [← trailMisc_append_eof]
  exact readMessage_trail c k n (body ++ [.eof])

/-- … nor to session establishment from the server's hello (every URI oracle). -/
theorem hello_trailing_comments_invariant (c : RCfg) (adv : Bool) (o : UriOracle) (n : Nat) (body : List Ev) :
    establish c adv o (body ++ List.replicate n .comment ++ [.eof]) = establish c adv o (body ++ [.eof]) := by
  show establish c adv o (body ++ comments n ++ [.eof]) = _
  rw [← trailMisc_append_eof]
  exact establish_trail c adv o n (body ++ [.eof])

/-- **`Misc` around `<rpc-reply>`**: every document of the reply grammar (no hypothesis on the
children: any `cs`, any attributes, any message-id text) reads the same with `pre` comments in
front of the root element and `post` comments between `</rpc-reply>` and the end of input. -/
theorem reply_misc_invariant (c : RCfg) (k : ReplyKind) (pre post : Nat) (raw idAttr : String)
    (extra : List AttrItem) (cs : List Top) :
    readMessage c k (replyDocMisc pre post raw idAttr extra cs) = readMessage c k (replyDoc raw idAttr extra cs) := by
  rw [replyDocMisc_eq, readMessage_lead, readMessage_trail]

/-- with the well-formedness hypotheses of the refinement theorem: the reader computes the
child-level semantics `replyAbs` on the document with `Misc`, too -/
theorem readMessage_docMisc (c : RCfg) (k : ReplyKind) (pre post : Nat) (raw idAttr : String) (extra : List AttrItem)
    (cs : List Top) (id : Nat) (hid : parseUsize idAttr = some id) (hwf : ∀ x ∈ cs, x.WF)
    (hin : Inert raw (cs.flatMap Top.render)) :
    readMessage c k (replyDocMisc pre post raw idAttr extra cs) = outcomeOf (replyAbs c k cs) := by
  rw [reply_misc_invariant, readMessage_doc c k raw idAttr extra cs id hid hwf hin]

/-- the "insert between `</rpc-reply>` and `Eof`" form of the same statement -/
theorem reply_doc_trailing_comments_invariant (c : RCfg) (k : ReplyKind) (n : Nat) (raw idAttr : String)
    (extra : List AttrItem) (cs : List Top) :
    readMessage c k ((replyDoc raw idAttr extra cs).dropLast ++ List.replicate n .comment ++ [.eof])
      = readMessage c k (replyDoc raw idAttr extra cs) := by
  rw [replyDoc, List.append_cons _ (Ev.end raw), List.dropLast_concat, reply_trailing_comments_invariant]

/-- **`Misc` around `<hello>`**: every document of the hello grammar establishes the same session
(or fails with the same error) with comments in front of `<hello>` and after `</hello>`. -/
theorem hello_misc_invariant (c : RCfg) (adv : Bool) (o : UriOracle) (pre post : Nat) (raw : String)
    (attrs : List AttrItem) (cs : List HChild) :
    establish c adv o (helloDocMisc pre post raw attrs cs) = establish c adv o (helloDoc raw attrs cs) := by
  rw [helloDocMisc_eq, establish_lead, establish_trail]

/-- with the well-formedness hypothesis of the refinement theorem: `establishAbs` -/
theorem establish_docMisc (c : RCfg) (adv : Bool) (o : UriOracle) (pre post : Nat) (raw : String)
    (attrs : List AttrItem) (cs : List HChild) (hwf : ∀ x ∈ cs, x.WF) :
    establish c adv o (helloDocMisc pre post raw attrs cs) = establishAbs c adv o cs := by
  rw [hello_misc_invariant, establish_doc c adv o raw attrs cs hwf]

theorem hello_doc_trailing_comments_invariant (c : RCfg) (adv : Bool) (o : UriOracle) (n : Nat) (raw : String)
    (attrs : List AttrItem) (cs : List HChild) :
    establish c adv o ((helloDoc raw attrs cs).dropLast ++ List.replicate n .comment ++ [.eof])
      = establish c adv o (helloDoc raw attrs cs) := by
  rw [helloDoc, List.append_cons _ (Ev.end raw), List.dropLast_concat, hello_trailing_comments_invariant]

/-- what `replyDocMisc 1 2` produces for `<rpc-reply message-id="1"><ok/></rpc-reply>` -/
example :
    replyDocMisc 1 2 "rpc-reply" "1" [] [.ok]
      = [.comment, .start (replyTag "rpc-reply" "1" []), .empty okTag, .end "rpc-reply", .comment, .comment, .eof] := by
  decide +kernel

/-- non-vacuity: `<rpc-reply message-id="1"><ok/></rpc-reply><!-- a --><!-- b -->` reads to `ok`,
with and without a comment in front, in the pinned and in the current code -/
example :
    readMessage .fixed .empty
      [.start (replyTag "rpc-reply" "1" []), .empty okTag, .end "rpc-reply", .comment, .comment, .eof] = .ok ∧
    readMessage .pinned .empty
      [.comment, .start (replyTag "rpc-reply" "1" []), .empty okTag, .end "rpc-reply", .comment, .comment, .eof] = .ok ∧
    readMessage .fixed .empty (replyDoc "rpc-reply" "1" [] [.ok]) = .ok := by
  decide +kernel

/-- non-vacuity through the theorem: a `<data>` reply with `Misc` on both sides -/
example :
    readMessage .fixed .data (replyDocMisc 3 2 "rpc-reply" "7" [] [.data "<a/>" [.empty (baseTag "a" none)]])
      = .data "<a/>" := by
  rw [reply_misc_invariant]; decide +kernel

/-- non-vacuity, hello: `<hello>…</hello><!-- c -->` establishes the session -/
example :
    (establish .fixed false
        (fun _ => some { scheme := "urn", authority := none, path := "ietf:params:netconf:base:1.0", query := none,
                         fragment := none })
      [.start (helloTag "hello" []),
       .start { ns := .bound BASE, lname := "capabilities", raw := "capabilities", attrs := [], span := none },
       .start (baseTag "capability" (some "urn:ietf:params:netconf:base:1.0")), .end "capability", .end "capabilities",
       .start (baseTag "session-id" (some "4711")), .end "session-id", .end "hello", .comment, .eof]).toOption
      = some { sid := 4711, version := .v10, serverCaps := [.base10] } ∧
    helloDocMisc 0 1 "hello" [] [.caps "capabilities" [.cap "urn:ietf:params:netconf:base:1.0" []], .sid "4711" []]
      = [.start (helloTag "hello" []),
         .start { ns := .bound BASE, lname := "capabilities", raw := "capabilities", attrs := [], span := none },
         .start (baseTag "capability" (some "urn:ietf:params:netconf:base:1.0")), .end "capability", .end "capabilities",
         .start (baseTag "session-id" (some "4711")), .end "session-id", .end "hello", .comment, .eof] := by
  decide +kernel

/-- scope of the statements above: comments only. A processing instruction after the root element
is not an equivalent rewrite (PIs are part of the infoset) and the current code rejects it
(`Event::PI` falls into the catch-all arm of `from_xml`). -/
theorem trailing_pi_cex :
    readMessage .fixed .empty
      [.start (replyTag "rpc-reply" "1" []), .empty okTag, .end "rpc-reply", .pi, .eof] = .err .unexpected := by
  decide +kernel

end Xml
