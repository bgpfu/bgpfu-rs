import Bgpfu.Lemmas.SessionLive
/-!
# C05 — each RPC caller receives exactly the reply to its own request

The model is Model/Session.lean: `St` with `lockAcrossSend = false` is the session as it is in /repo now; `true` is
the pinned snapshot. Reachable states: `St.run {} acts` for arbitrary action lists `acts` (any interleaving of
sends, gate changes, polls of any future, deliveries of any message, drops, close).
-/
namespace Session

/-- message-ids are handed out by incrementing a counter, also when the builder fails -/
theorem send_consumes_id (s : St) (b : Bool) (h : s.rpc = none) : (s.send b).1.nextId = s.nextId + 1 :=
  (send_ctr b h).1

/-- defect D13 (C18): future 0 has taken the reply to request 2 off the transport and is dropped while it waits for the
requests lock, which `rpc()` 3 holds across its blocked send. Run below on the current and on the pinned session. -/
def d13Schedule : List Act :=
  [.send true, .send true, .poll 0, .gate false, .send true, .deliver ⟨some 2, 22, true⟩, .poll 0, .drop 0,
   .gate true, .deliver ⟨some 3, 33, true⟩]

example : ((St.rounds 4 (St.run { lockAcrossSend := false } d13Schedule)).futs.map (·.pc))
    = [.dropped, .done (.ok 22), .done (.ok 33)] := by decide +kernel

/-- **Defect D13 of the pinned snapshot**: the reply to request 2, already read by the dropped
future, is lost; requests 2 and 3 never complete. -/
theorem drop_in_reqlock_window_cex :
    ((St.rounds 4 (St.run { lockAcrossSend := true } d13Schedule)).futs.map (·.pc)) = [.dropped, .reading, .waitRx]
    ∧ (St.run { lockAcrossSend := true } d13Schedule).lost = [⟨some 2, 22, true⟩] := by decide +kernel

/-! ## Safety, in every reachable state of the current code

`Inv` (Lemmas/Session.lean) is an inductive invariant: it holds initially and is preserved by every
action, so it holds after any action list (`run_inv`). The theorems below are its consequences. -/

/-- **no message-id is ever reused**: the ids written to the transport are strictly increasing (and
bounded by the id counter), whatever sends failed in the builder, in the transport, or were blocked. -/
theorem ids_fresh (acts : List Act) :
    (St.run {} acts).sent.Pairwise (· < ·) ∧ ∀ x ∈ (St.run {} acts).sent, x ≤ (St.run {} acts).nextId :=
  ⟨(run_inv acts).1.sentInc, (run_inv acts).1.sentLe⟩

/-- **own reply only**: a future that resolved `ok t` carries message-id `i` such that the server
delivered a message with id `i`, payload `t`, whose phase 2 succeeds. -/
theorem own_reply_only (acts : List Act) (f : Fut) (t : Nat) (hf : f ∈ (St.run {} acts).futs)
    (hpc : f.pc = .done (.ok t)) :
    ∃ m ∈ (St.run {} acts).delivered, m.id = some f.id ∧ m.tag = t ∧ m.p2 = true :=
  (run_inv acts).1.resOk f.fid f t ((run_inv acts).find hf) hpc

/-- **no reply is delivered twice**, the part about ids: two distinct futures differ in message-id and in fid, so no
message carries the id of both. With `own_reply_only` (a result stems from a message with the future's id) no
delivered message is the source of two results; the statement itself mentions neither `delivered` nor results. -/
theorem no_double_delivery (acts : List Act) (f g : Fut) (hf : f ∈ (St.run {} acts).futs)
    (hg : g ∈ (St.run {} acts).futs) (hne : f ≠ g) :
    f.id ≠ g.id ∧ f.fid ≠ g.fid ∧ ∀ m : Msg, ¬ (m.id = some f.id ∧ m.id = some g.id) := by
  have hinv := run_inv acts
  have h1 : f.id ≠ g.id := fun he => hne (eq_of_map_nodup (·.id) hinv.1.idNodup hf hg he)
  refine ⟨h1, fun he => hne (eq_of_map_nodup (·.fid) hinv.1.fidNodup hf hg he), ?_⟩
  rintro m ⟨h2, h3⟩
  rw [h2] at h3
  exact h1 (Option.some.inj h3)

/-- **unknown ids are never delivered**, as a consequence of `own_reply_only`: every `ok` stems from a delivered
message that passed phase 1 with the id of the future that got it, hence not with an id `i` that no future has. What
becomes of a message whose id has no pending request is `unknown_id_goes_to_lost`. -/
theorem unknown_id_never_delivered (acts : List Act) (f : Fut) (t : Nat) (hf : f ∈ (St.run {} acts).futs)
    (hpc : f.pc = .done (.ok t)) :
    ∃ m ∈ (St.run {} acts).delivered, m.tag = t ∧ m.id = some f.id ∧ m.id ≠ none ∧
      ∀ i, (∀ g ∈ (St.run {} acts).futs, g.id ≠ i) → m.id ≠ some i := by
  obtain ⟨m, hm, h1, h2, _⟩ := own_reply_only acts f t hf hpc
  refine ⟨m, hm, h2, h1, by simp [h1], ?_⟩
  intro i hi he
  rw [h1] at he
  exact hi f hf (Option.some.inj he)

/-- **a message that cannot be parked goes to `lost`**: a future that takes a message off the transport which fails
phase 1, or whose id has no pending request, fails; the message goes to `lost`, no slot and no other future changes
(`poll_bad_msg` for any such message, told by components; `others_still_delivered` is the phase-1 case with the whole
state). -/
theorem unknown_id_goes_to_lost (acts : List Act) (f : Fid) (fu : Fut) (m : Msg) (rest : List Msg)
    (hf : (St.run {} acts).fut f = some fu) (hr : Reads (St.run {} acts) f fu)
    (hi : (St.run {} acts).inbox = m :: rest)
    (hb : m.id = none ∨ ∃ mid, m.id = some mid ∧ (St.run {} acts).slot mid ≠ some .pending) :
    let s' := (St.run {} acts).poll f
    s'.fut f = some { fu with pc := .done .err } ∧ s'.lost = (St.run {} acts).lost ++ [m] ∧
      s'.slots = (St.run {} acts).slots ∧ ∀ g, g ≠ f → s'.fut g = (St.run {} acts).fut g := by
  intro s'
  rw [show s' = _ from poll_bad_msg (run_inv acts) hf hr hi hb]
  exact ⟨findFut_setPc_self _ hf, rfl, rfl, fun g hg => findFut_setPc_ne _ _ hg⟩

/-- **the receive lock is never leaked**: in every reachable state the lock is free only if nobody
waits for it; its owner is a live future (handed the lock, or reading from the transport), never a
finished or dropped one; exactly the futures queued or handed the lock are in `waitRx`. -/
theorem rx_lock_never_leaked (acts : List Act) :
    let s := St.run {} acts
    (s.rxOwner = none → s.rxQueue = []) ∧
    (∀ g, s.rxOwner = some g → ∃ fu ∈ s.live, fu.fid = g ∧ (fu.pc = .waitRx ∨ fu.pc = .reading)) ∧
    (∀ g ∈ s.rxQueue, s.rxOwner ≠ some g ∧ ∃ fu ∈ s.live, fu.fid = g ∧ fu.pc = .waitRx) ∧
    s.rxQueue.Nodup ∧
    (∀ fu ∈ s.futs, fu.pc = .waitRx → s.rxOwner = some fu.fid ∨ fu.fid ∈ s.rxQueue) ∧
    (∀ fu ∈ s.futs, fu.pc = .reading → s.rxOwner = some fu.fid) := by
  intro s
  have hinv : Inv s := run_inv acts
  refine ⟨hinv.2.freeOk, ?_, ?_, hinv.1.queueNodup, ?_, ?_⟩
  · intro g hg
    obtain ⟨fu, hf, hl, hpc⟩ := hinv.owner_find hg
    exact ⟨fu, live_of_find hf hl, findFut_fid hf, hpc⟩
  · intro g hg
    obtain ⟨_, h2, fu, hf, hpc⟩ := hinv.2.qOk g hg
    exact ⟨h2, fu, live_of_find hf (by simp [Fut.isLive, hpc]), findFut_fid hf, hpc⟩
  · intro fu hm hpc
    exact hinv.2.waitOk fu.fid fu (hinv.find hm) (by simp) hpc
  · intro fu hm hpc
    exact (hinv.2.readOk fu.fid fu (hinv.find hm) (by simp) hpc).1

/-! ## Liveness under a fair scheduler (`St.rounds`: every live future is polled once per round) -/

/-- **all complete** (responsive server, fair scheduler): in every reachable state that is `Clean`
— transport open; every message on it passes both parse phases and answers a pending request, no
two the same one; the reply of every live future is parked in its slot (passing phase 2) or on the
transport — `inbox + live` fair rounds (or more) complete **every** live future with **its own**
reply (`St.reply`: the message parked for its id, else the message with its id on the transport);
no future is created, removed or re-labelled on the way. Drops, blocked sends and earlier failures
anywhere in `acts` are allowed. -/
theorem all_complete (acts : List Act) (hc : Clean (St.run {} acts)) (n : Nat)
    (hn : (St.run {} acts).inbox.length + (St.run {} acts).live.length ≤ n) :
    let s := St.run {} acts
    (St.rounds n s).live = [] ∧
    (St.rounds n s).futs.map (fun f => (f.fid, f.id)) = s.futs.map (fun f => (f.fid, f.id)) ∧
    ∀ f0 ∈ s.live, ∀ f ∈ (St.rounds n s).futs, f.fid = f0.fid →
      ∃ m, s.reply f0.id = some m ∧ m.id = some f0.id ∧ f.pc = .done (.ok m.tag) := by
  intro s
  have hinv : Inv s := run_inv acts
  obtain ⟨h1, h2⟩ := clean_rounds hinv hc n hn
  refine ⟨h1, rounds_keys n hinv, ?_⟩
  intro f0 hf0 f hf hfid
  obtain ⟨_, m, hr, hpc⟩ := h2 f0 hf0 f hf hfid
  exact ⟨m, hr, reply_id hinv hr, hpc⟩

/-- **C14, session clause**, the step: a future that takes a message failing phase 1 off the transport
resolves with an error and hands the receive lock on; the message goes to `lost`; no slot, no other
future and nothing else on the transport is touched — the state after the poll is given in full (`poll_bad_msg`, as
`unknown_id_goes_to_lost`). That the others then obtain their replies is `others_complete_after_garbage`. -/
theorem others_still_delivered (acts : List Act) (f : Fid) (fu : Fut) (m : Msg) (rest : List Msg)
    (hf : (St.run {} acts).fut f = some fu) (hr : Reads (St.run {} acts) f fu)
    (hi : (St.run {} acts).inbox = m :: rest) (hm : m.id = none) :
    let s := St.run {} acts
    s.poll f = { s with inbox := rest, lost := s.lost ++ [m], futs := setPc f (.done .err) s.futs,
                        rxOwner := s.rxQueue.head?, rxQueue := s.rxQueue.tail } ∧
    (s.poll f).fut f = some { fu with pc := .done .err } ∧ (∀ g, g ≠ f → (s.poll f).fut g = s.fut g) ∧
    (s.poll f).rxOwner ≠ some f := by
  dsimp only
  have hinv : Inv (St.run {} acts) := run_inv acts
  have e := poll_bad_msg hinv hf hr hi (.inl hm)
  rw [e]
  exact ⟨rfl, findFut_setPc_self _ hf, fun g hg => findFut_setPc_ne _ _ hg,
    fun he => (hr.runs hinv hf).1.not_queued hinv (List.mem_of_mem_head? he)⟩

/-- **after `others_still_delivered` the others still obtain their replies**: if the rest of the transport and the other
live futures satisfy the conditions of `all_complete`, the state after the failed read is `Clean`, so
`all_complete` (applied to `acts ++ [.poll f]`) completes every other live future with its own reply. -/
theorem others_complete_after_garbage (acts : List Act) (f : Fid) (fu : Fut) (m : Msg) (rest : List Msg)
    (hf : (St.run {} acts).fut f = some fu) (hr : Reads (St.run {} acts) f fu)
    (hi : (St.run {} acts).inbox = m :: rest) (hm : m.id = none)
    (hopen : (St.run {} acts).closed = false)
    (hrest : ∀ m' ∈ rest, m'.p2 = true ∧ m'.id.bind (St.run {} acts).slot = some .pending)
    (hnodup : (rest.map (·.id)).Nodup)
    (hothers : ∀ g ∈ (St.run {} acts).live, g.fid ≠ f →
      (({ (St.run {} acts) with inbox := rest } : St).reply g.id).map (·.p2) = some true)
    (n : Nat) (hn : rest.length + (St.run {} acts).live.length ≤ n + 1) :
    let s' := (St.run {} acts).poll f
    Clean s' ∧ (St.rounds n s').live = [] ∧
    ∀ g0 ∈ (St.run {} acts).live, g0.fid ≠ f → ∀ g ∈ (St.rounds n s').futs, g.fid = g0.fid →
      ∃ m', ({ (St.run {} acts) with inbox := rest } : St).reply g0.id = some m' ∧ g.pc = .done (.ok m'.tag) := by
  intro s'
  have hinv : Inv (St.run {} acts) := run_inv acts
  have hclean : Clean s' := clean_after_bad hinv hf hr hi (.inl hm) hopen hrest hnodup hothers
  have e : s' = _ := poll_bad_msg hinv hf hr hi (.inl hm)
  have hlen : s'.inbox.length + s'.live.length ≤ n := by
    have := liveCount_done .err hf hr.live
    rw [live_length] at hn ⊢
    rw [e]
    dsimp only
    omega
  obtain ⟨h1, h2⟩ := clean_rounds (poll_inv f hinv) hclean n hlen
  refine ⟨hclean, h1, fun g0 hg0 hne g hg hfid => ?_⟩
  obtain ⟨_, m', hm', hpc⟩ := h2 g0 ((poll_bad_live hinv hf hr hi (.inl hm)).2 ⟨hg0, hne⟩) g hg hfid
  exact ⟨m', by rw [show (St.run {} acts).poll f = _ from e] at hm'; exact hm', hpc⟩

/-- **C07, session clause**: once the transport is closed and drained, a poll of the lock owner, or of
any live future when the lock is free, finishes that future — with its parked reply if there is
one (`parkedRes`), else with an error; `live` fair rounds leave no live future; every later
`rpc()` fails and registers nothing. -/
theorem close_fails_all (acts : List Act) (hc : (St.run {} acts).closed = true) (he : (St.run {} acts).inbox = []) :
    let s := St.run {} acts
    (∀ f fu, s.fut f = some fu → fu.isLive = true → (s.rxOwner = some f ∨ s.rxOwner = none) →
      (s.poll f).fut f = some { fu with pc := .done (parkedRes (s.slot fu.id)) }) ∧
    (∀ n, s.live.length ≤ n → (St.rounds n s).live = [] ∧
      ∀ f0 ∈ s.live, ∀ f ∈ (St.rounds n s).futs, f.fid = f0.fid →
        f.id = f0.id ∧ f.pc = .done (parkedRes (s.slot f0.id))) ∧
    (∀ b, s.send b = ({ s with nextId := s.nextId + 1 }, .sendErr)) := by
  intro s
  have hinv : Inv s := run_inv acts
  exact ⟨fun f fu hf hl ho => closed_poll_result hinv hc he hf hl ho,
    fun n hn => closed_rounds hinv hc he n hn, fun b => closed_send hinv hc b⟩

/-! ## The hypotheses are satisfiable (non-vacuity) -/

/-- three pipelined requests, replies delivered out of order, the first future is reading: `Clean` -/
example : Clean (St.run {} [.send true, .send true, .send true, .poll 0, .deliver ⟨some 3, 33, true⟩,
    .deliver ⟨some 1, 11, true⟩, .poll 1, .deliver ⟨some 2, 22, true⟩]) := by decide +kernel

example : ((St.rounds 6 (St.run {} [.send true, .send true, .send true, .poll 0, .deliver ⟨some 3, 33, true⟩,
    .deliver ⟨some 1, 11, true⟩, .poll 1, .deliver ⟨some 2, 22, true⟩])).futs.map (·.pc))
    = [.done (.ok 11), .done (.ok 22), .done (.ok 33)] := by decide +kernel

/-- a clean state after a drop and with a parked reply -/
example : Clean (St.run {} [.send true, .send true, .send true, .poll 0, .poll 1, .deliver ⟨some 2, 22, true⟩,
    .poll 0, .drop 0, .deliver ⟨some 3, 33, true⟩]) := by decide +kernel

/-- a reachable closed, drained state with live futures (one of them with its reply parked) -/
example : let s := St.run {} [.send true, .send true, .send true, .poll 0, .poll 1, .deliver ⟨some 2, 22, true⟩,
    .poll 0, .close]
    s.closed = true ∧ s.inbox = [] ∧ s.live.length = 3 ∧ s.slot 2 = some (.ready ⟨some 2, 22, true⟩) ∧
    (St.rounds 3 s).futs.map (·.pc) = [.done .err, .done (.ok 22), .done .err] := by decide +kernel

/-- a reachable state in which a future reads a message failing phase 1 while another one waits -/
example : let s := St.run {} [.send true, .send true, .poll 0, .poll 1, .deliver ⟨none, 0, false⟩,
    .deliver ⟨some 2, 22, true⟩]
    s.fut 0 = some ⟨0, 1, .reading⟩ ∧ Reads s 0 ⟨0, 1, .reading⟩ ∧ s.inbox.head? = some ⟨none, 0, false⟩ ∧
    ((St.rounds 2 (s.poll 0)).futs.map (·.pc)) = [.done .err, .done (.ok 22)] := by
  refine ⟨by decide +kernel, .inl rfl, by decide +kernel, by decide +kernel⟩

end Session

/-! ## message-ids are never reused — not even the ids of `rpc()` calls that failed

`Session::rpc` draws its id first (`self.last_message_id.increment()`, its first statement) and may then
fail in the builder, in the transport before anything was written, or in the transport after the
bytes left (the server has then seen a request with that id). The ghost list `consumed` records
the id of **every** executed `send` action, successful or not (`send_draws_next_id`); `nextId` is the
counter. `rollbackOnFail = false` (the default, `{}`) is the code as it is. -/
namespace Session

/-- **every executed `send` draws exactly the next id**, whatever becomes of the call (builder ok or
not, transport open, closed or blocked): the counter goes up by one and the drawn id is recorded. -/
theorem send_draws_next_id (acts : List Act) (b : Bool) (hr : (St.run {} acts).rpc = none) :
    let s := St.run {} acts
    (s.step (.send b)).nextId = s.nextId + 1 ∧ (s.step (.send b)).consumed = s.consumed ++ [s.nextId + 1] :=
  sendAct_draws (run_inv acts) b hr

/-- a `send` while another `rpc()` call is still blocked in the transport is not executed at all
(`rpc()` takes `&mut self`, assumption A2): nothing changes, no id is drawn -/
theorem send_while_blocked_is_noop (acts : List Act) (b : Bool) (k : Nat) (hr : (St.run {} acts).rpc = some k) :
    (St.run {} acts).step (.send b) = St.run {} acts :=
  sendAct_busy b k hr

/-- no other action touches the counter or the record: not a poll or a drop of any future, not a
delivery, not the gate, not the failure of the transport — in particular **not the failure of a
blocked `rpc()`** (`.gate true` / `.close` with a call in flight): its id stays consumed. -/
theorem other_actions_keep_ids (acts : List Act) (a : Act) (ha : ∀ b, a ≠ .send b) :
    let s := St.run {} acts
    (s.step a).nextId = s.nextId ∧ (s.step a).consumed = s.consumed :=
  step_keeps_ids (run_inv acts) ha

/-- **the id counter never decreases**, along any history and any continuation of it -/
theorem nextId_never_decreases (acts more : List Act) :
    (St.run {} acts).nextId ≤ (St.run {} (acts ++ more)).nextId := by
  rw [run_append]
  exact run_nextId_le (run_inv acts) more

/-- **no message-id is ever reused, failed calls included**: in every reachable state the ids drawn
by all `send` actions so far are exactly `1, 2, …, nextId` — each once, in increasing order; every id
on the wire, every reply future's id and the id of a blocked call are among them. -/
theorem ids_never_reused (acts : List Act) :
    let s := St.run {} acts
    s.consumed = List.range' 1 s.nextId ∧ s.consumed.Pairwise (· < ·) ∧ s.consumed.Nodup ∧
    (∀ x ∈ s.sent, x ∈ s.consumed) ∧ (∀ f ∈ s.futs, f.id ∈ s.consumed) ∧
    (∀ k, s.rpc = some k → k ∈ s.consumed) := by
  intro s
  have h : Ids s := run_ids acts
  refine ⟨h.cons, ?_, ?_, h.sentCons, ?_, h.rpcLe⟩
  · rw [h.cons]; exact List.pairwise_lt_range'
  · rw [h.cons]; exact List.nodup_range'
  · intro f hf
    apply h.sentCons
    rw [← (run_inv acts).1.idsSent]
    exact List.mem_map.2 ⟨f, hf, rfl⟩

/-- **`ids_never_reused` on the history**: two different executed `send` actions — whether either of them
succeeded or failed — never draw the same id; the later one draws a greater one. -/
theorem distinct_sends_draw_distinct_ids (before between : List Act) (b1 b2 : Bool)
    (h1 : (St.run {} before).rpc = none) (h2 : (St.run {} (before ++ .send b1 :: between)).rpc = none) :
    let s1 := St.run {} before
    let s2 := St.run {} (before ++ .send b1 :: between)
    -- the ids the two calls draw
    (s1.step (.send b1)).consumed = s1.consumed ++ [s1.nextId + 1] ∧
    (s2.step (.send b2)).consumed = s2.consumed ++ [s2.nextId + 1] ∧
    s1.nextId + 1 < s2.nextId + 1 := by
  intro s1 s2
  refine ⟨(send_draws_next_id before b1 h1).2, (send_draws_next_id _ b2 h2).2, ?_⟩
  have e : s2 = St.run {} ((before ++ [.send b1]) ++ between) := by simp [s2]
  have h3 := nextId_never_decreases (before ++ [.send b1]) between
  rw [← e] at h3
  have h4 : (St.run {} (before ++ [.send b1])).nextId = s1.nextId + 1 := by
    rw [run_append]; exact (send_draws_next_id before b1 h1).1
  omega

/-- **the variant that gives the id back** (`rollbackOnFail = true`: a failing `rpc()` sets the
counter back): history send-ok, send-failed, send-ok — the failed call (whose bytes may have reached
the server) and the next call both carry id 2. The same history on the code as it is: 1, 2, 3. Also
when the failing call was blocked in the transport and fails on `close`. -/
theorem rollback_reuses_id_cex :
    (St.run { rollbackOnFail := true } [.send true, .send false, .send true]).consumed = [1, 2, 2]
    ∧ (St.run { rollbackOnFail := true } [.send true, .send false, .send true]).sent = [1, 2]
    ∧ ¬ (St.run { rollbackOnFail := true } [.send true, .send false, .send true]).consumed.Nodup
    ∧ (St.run {} [.send true, .send false, .send true]).consumed = [1, 2, 3]
    ∧ (St.run {} [.send true, .send false, .send true]).sent = [1, 3]
    ∧ (St.run { rollbackOnFail := true } [.send true, .gate false, .send true, .close, .send true]).consumed = [1, 2, 2]
    ∧ (St.run {} [.send true, .gate false, .send true, .close, .send true]).consumed = [1, 2, 3] := by
  decide +kernel

/-- non-vacuity: a history with failed builders, a blocked and then failing send, drops and polls -/
example : let s := St.run {} [.send true, .send false, .poll 0, .gate false, .send true, .send true, .close,
      .send true, .drop 0, .send false]
    s.consumed = [1, 2, 3, 4, 5] ∧ s.sent = [1] ∧ s.nextId = 5 := by decide +kernel

end Session
