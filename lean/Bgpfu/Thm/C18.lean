import Bgpfu.Lemmas.SessionLive
import Bgpfu.Lemmas.Framing
/-!
# C18 — abandoning one reply future does not disturb other outstanding requests
Reachable states of the current code: `St.run {} acts`, `acts` arbitrary — drop actions may occur anywhere in
`acts`, so every C05 theorem already covers schedules with drops; the theorems here spell out what a
drop does. The model is Model/Session.lean, the invariant is in `Lemmas/Session.lean`.
-/
namespace Session

/-- **a drop never leaves the receive lock with the dropped future**: dropping the lock owner hands
the lock to the first waiter, or frees it if nobody waits. -/
theorem drop_releases_lock (acts : List Act) (f : Fid) (ho : (St.run {} acts).rxOwner = some f) :
    let s := St.run {} acts
    (s.drop f).rxOwner = s.rxQueue.head? ∧ (s.drop f).rxQueue = s.rxQueue.tail ∧ (s.drop f).rxOwner ≠ some f :=
  drop_owner (run_inv acts) ho

/-- **after any drop the receive lock is sound**: whatever is dropped, in whatever reachable state, afterwards the lock
is free only if nobody waits, its owner and all waiters are live futures, the dropped one is none of them. -/
theorem drop_keeps_lock_sound (acts : List Act) (f : Fid) :
    let s := (St.run {} acts).drop f
    (s.rxOwner = none → s.rxQueue = []) ∧
    (∀ g, s.rxOwner = some g → ∃ fu ∈ s.live, fu.fid = g) ∧
    (∀ g ∈ s.rxQueue, ∃ fu ∈ s.live, fu.fid = g) ∧
    s.rxOwner ≠ some f ∧ f ∉ s.rxQueue := by
  intro s
  have h : Inv s := drop_inv f (run_inv acts)
  have hnl : ∀ fu ∈ s.live, fu.fid ≠ f := fun fu hfu => ((drop_live f (run_inv acts)).mp hfu).2
  have own : ∀ g, s.rxOwner = some g → ∃ fu ∈ s.live, fu.fid = g := fun g hg =>
    let ⟨fu, hf, hl, _⟩ := h.owner_find hg
    ⟨fu, live_of_find hf hl, findFut_fid hf⟩
  have queued : ∀ g ∈ s.rxQueue, ∃ fu ∈ s.live, fu.fid = g := fun g hg =>
    let ⟨_, _, fu, hf, hp⟩ := h.2.qOk g hg
    ⟨fu, live_of_find hf (by simp [Fut.isLive, hp]), findFut_fid hf⟩
  exact ⟨h.2.freeOk, own, queued, fun hg => let ⟨fu, h1, h2⟩ := own f hg; hnl fu h1 h2,
    fun hg => let ⟨fu, h1, h2⟩ := queued f hg; hnl fu h1 h2⟩

/-- **a drop loses nothing** (current code): no message is lost, the request map and the transport
are untouched — in every reachable state, for every future, at whatever suspension point. -/
theorem drop_loses_nothing (acts : List Act) (f : Fid) :
    let s := St.run {} acts
    (s.drop f).lost = s.lost ∧ (s.drop f).slots = s.slots ∧ (s.drop f).inbox = s.inbox :=
  have ⟨hs, hi, _, hl⟩ := drop_frame f (run_inv acts)
  ⟨hl, hs, hi⟩

/-- **survivors complete**: drop any futures `ds` in a reachable `Clean` state (C05 `all_complete`);
the state stays `Clean`, its live futures are exactly the live futures that were not dropped, and
fair rounds complete every one of them with its own reply. -/
theorem survivors_complete (acts : List Act) (ds : List Fid) (hc : Clean (St.run {} acts)) (n : Nat)
    (hn : (St.run {} acts).inbox.length + (St.run {} acts).live.length ≤ n) :
    let s := St.run {} acts
    let s' := ds.foldl St.drop s
    Clean s' ∧ (∀ fu, fu ∈ s'.live ↔ fu ∈ s.live ∧ fu.fid ∉ ds) ∧
    (St.rounds n s').live = [] ∧
    ∀ f0 ∈ s.live, f0.fid ∉ ds → ∀ f ∈ (St.rounds n s').futs, f.fid = f0.fid →
      ∃ m, s.reply f0.id = some m ∧ m.id = some f0.id ∧ f.pc = .done (.ok m.tag) := by
  intro _ s'
  have hinv : Inv (St.run {} acts) := run_inv acts
  obtain ⟨hinv', hcl, hlive, hin, hsl⟩ :
    _ ∧ _ ∧ _ ∧ s'.inbox = (St.run {} acts).inbox ∧ s'.slots = (St.run {} acts).slots := drops_spec ds hinv
  have hlen : s'.inbox.length + s'.live.length ≤ n := by
    have : s'.live.length ≤ (St.run {} acts).live.length := drops_live_length ds hinv
    rw [hin]; omega
  obtain ⟨h1, h2⟩ := clean_rounds hinv' (hcl hc) n hlen
  refine ⟨hcl hc, hlive, h1, fun f0 hf0 hnd f hf hfid => ?_⟩
  obtain ⟨_, m, hm, hpc⟩ := h2 f0 ((hlive f0).mpr ⟨hf0, hnd⟩) f hf hfid
  exact ⟨m, reply_of_frame hin hsl ▸ hm, reply_id hinv' hm, hpc⟩

/-- **the session stays usable**: in every reachable state — whatever was dropped before — with no
`rpc()` blocked, the transport open and writable, a new `rpc()` succeeds: it gets a fresh
message-id (never sent before, no other future has it), a fresh pending slot, and a new reply
future in `start`; nothing else changes. -/
theorem session_usable_after_drop (acts : List Act) (hr : (St.run {} acts).rpc = none)
    (hc : (St.run {} acts).closed = false) (hg : (St.run {} acts).gateOpen = true) :
    let s := St.run {} acts
    s.send true = ({ s with nextId := s.nextId + 1, slots := s.slots ++ [(s.nextId + 1, .pending)],
                            sent := s.sent ++ [s.nextId + 1],
                            futs := s.futs ++ [{ fid := s.nextFid, id := s.nextId + 1, pc := .start }],
                            nextFid := s.nextFid + 1 }, .sendOk s.nextFid (s.nextId + 1)) ∧
    (s.nextId + 1) ∉ s.sent ∧ (∀ fu ∈ s.futs, fu.id ≠ s.nextId + 1 ∧ fu.fid ≠ s.nextFid) ∧
    s.slot (s.nextId + 1) = none ∧ (s.send true).1.slot (s.nextId + 1) = some .pending :=
  open_send (run_inv acts) hr hc hg

/-! non-vacuity: a reachable state in which the lock owner is dropped while another future waits -/
example : let s := St.run {} [.send true, .send true, .poll 0, .poll 1]
    s.rxOwner = some 0 ∧ s.rxQueue = [1] ∧ (s.drop 0).rxOwner = some 1 ∧ (s.drop 0).rxQueue = [] := by decide +kernel

/-- a clean reachable state, two of three futures dropped (one of them reading), the survivor completes -/
example : let s := St.run {} [.send true, .send true, .send true, .poll 0, .poll 1, .deliver ⟨some 1, 11, true⟩,
    .deliver ⟨some 2, 22, true⟩, .deliver ⟨some 3, 33, true⟩]
    Clean s ∧ ((St.rounds 6 ([0, 1].foldl St.drop s)).futs.map (·.pc)) = [.dropped, .dropped, .done (.ok 33)] := by
  decide +kernel

end Session


/-! ## The transport below the session: abandoning a `recv()` in the middle of a message

A reply future that is dropped while it is the reader is suspended inside the transport's
`recv()` (`read_buf().await`). The TLS / CLI receiver keeps its buffer in the handle, so what it had
read so far is still there for the next reader. In the framing model a `recv` that consumed the reads
`r₁` and is then abandoned is `recv … = .pending buf'`; the next call starts from `buf'`. -/
namespace Framing

/-- **cancel-safety of `Receiver::recv`** (current code): abandoning a call that has consumed the
reads `r₁` without completing a message, and calling `recv` again, gives exactly what one
uninterrupted call would have given on `r₁ ++ r₂` — the same message, the same remaining buffer,
the same unread input — for every buffer content and every segmentation. -/
theorem recv_cancel_safe (buf buf' : List Byte) (r1 r2 : List Read)
    (h : recv .fixed buf r1 = .pending buf') :
    recv .fixed buf' r2 = recv .fixed buf (r1 ++ r2) := by
  rw [recv_eq_spec] at h
  obtain ⟨cs, rfl, rfl, h3⟩ := specRecv_pending r1 buf buf' h
  rw [recv_eq_spec, recv_eq_spec, specRecv_datas_none cs r2 buf h3]

/-- the buffer after a sequence of abandoned calls, each of which consumed one batch of reads
without completing a message (`none` if one of them did complete or fail: it was not abandoned
in the middle of a message then) -/
def afterAbandoned : List Byte → List (List Read) → Option (List Byte)
  | buf, [] => some buf
  | buf, b :: bs =>
    match recv .fixed buf b with
    | .pending buf' => afterAbandoned buf' bs
    | _ => none

/-- `recv_cancel_safe` for any number of abandoned calls in a row: the call after them gives what one uninterrupted
call gives on all their reads followed by its own -/
theorem recv_cancel_safe_many (buf buf' : List Byte) (batches : List (List Read)) (r : List Read)
    (h : afterAbandoned buf batches = some buf') :
    recv .fixed buf' r = recv .fixed buf (batches.flatten ++ r) := by
  induction batches generalizing buf with
  | nil => simp only [afterAbandoned, Option.some.injEq] at h; subst h; simp
  | cons b bs ih =>
    rw [afterAbandoned] at h
    split at h
    · rename_i b' hb
      rw [ih b' h, List.flatten_cons, List.append_assoc]
      exact recv_cancel_safe buf b' b (bs.flatten ++ r) hb
    · cases h

/-- non-vacuity: a reply cut in three, the reader abandoned after the first and after the second piece -/
example : afterAbandoned [] [[.data [60, 97]], [.data [47, 62, 93, 93]]] = some [60, 97, 47, 62, 93, 93] ∧
    recv .fixed [60, 97, 47, 62, 93, 93] [.data [62, 93, 93, 62]] = .msg [60, 97, 47, 62, 93, 93, 62, 93, 93, 62] [] [] := by
  decide +kernel

/-- that the next call starts from `buf'` is what `recv_cancel_safe` rests on: the same `recv`, started from the
empty buffer on the second read alone, does not return what the uninterrupted call returns on both reads. A receiver
whose buffer does not survive the abandoned call (one that moves it into the future, say) makes the next reader
that first call; the model has no such receiver, both sides here are `recv .fixed`. -/
theorem lost_buffer_cex :
    recv .fixed [] [.data [62, 93, 93, 62]] ≠ recv .fixed [] ([.data [60, 97, 47, 62, 93, 93]] ++ [.data [62, 93, 93, 62]]) := by
  decide +kernel

end Framing
