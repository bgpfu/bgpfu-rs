import Bgpfu.Lemmas.Readers
import Bgpfu.Lemmas.ReplyAbs
/-!
# C08 — a reply carrying an error is never reported as success

The theorems quantify over **all documents of the reply grammar** (`Bgpfu.Spec.ReplyGrammar`):
any number, order and severity of `rpc-error` children (with optional app-tag / message leaves
and arbitrary inert content inside the leaves), `<ok/>`, `<data>`, comments, and
`<load-configuration-results>` with its own children, in any arrangement; any qualified names;
any further attributes on `<rpc-reply>`. `readMessage .fixed k` is the whole path a reply future
takes in /repo now: parse phase 1, phase 2, message-id cross-check, `into_result`
(`RCfg.pinned` is the pinned snapshot).
-/
namespace Xml

/-- hypotheses shared by all statements: the document is an instance of the grammar. `inert`: no event among
the children carries the root's raw name, or is a tokenizer error or `Eof` (parse phase 1 does not read the
children: it skips to the end tag matching the root by raw name) -/
structure GoodDoc (raw idAttr : String) (cs : List Top) (id : Nat) : Prop where
  id : parseUsize idAttr = some id
  wf : ∀ x ∈ cs, x.WF
  inert : Inert raw (cs.flatMap Top.render)

/-- **Refinement** (restated from `readMessage_doc`): on every grammar document the event-level
reader computes exactly the child-level semantics. -/
theorem reply_refines (c : RCfg) (k : ReplyKind) (raw idAttr : String) (extra : List AttrItem)
    (cs : List Top) (id : Nat) (g : GoodDoc raw idAttr cs id) :
    readMessage c k (replyDoc raw idAttr extra cs) = outcomeOf (replyAbs c k cs) :=
  readMessage_doc c k raw idAttr extra cs id g.id g.wf g.inert

/-- **C08, part 1**: a reply that contains an `rpc-error` of severity `error` — as a child of
`rpc-reply` or inside `load-configuration-results` — is never turned into a successful result,
for every reply type. -/
theorem success_no_error_severity (k : ReplyKind) (raw idAttr : String) (extra : List AttrItem)
    (cs : List Top) (id : Nat) (g : GoodDoc raw idAttr cs id)
    (h : (readMessage .fixed k (replyDoc raw idAttr extra cs)).isSuccess = true) :
    errorSeverityInReply cs = false :=
  ((reply_refines .fixed k raw idAttr extra cs id g ▸ replyAbs_post .fixed rfl k cs).of_success h).1

/-- **C08, part 2**: success is reported only for a reply that carries the positive indication
defined for the operation. -/
theorem success_has_positive_indication (k : ReplyKind) (raw idAttr : String) (extra : List AttrItem)
    (cs : List Top) (id : Nat) (g : GoodDoc raw idAttr cs id)
    (h : (readMessage .fixed k (replyDoc raw idAttr extra cs)).isSuccess = true) :
    positiveIndication k cs :=
  ((reply_refines .fixed k raw idAttr extra cs id g ▸ replyAbs_post .fixed rfl k cs).of_success h).2

/-- **C08, part 3**: when the library reports server errors they are exactly the `rpc-error`s of
that reply, in document order: the children of `<rpc-reply>`, for the load reader those inside
`<load-configuration-results>` (`reportedErrors`). That there is one is not claimed: the load reader
reports the empty list when the server's `load-error-count` is 0. -/
theorem reported_errors_exact (k : ReplyKind) (raw idAttr : String) (extra : List AttrItem)
    (cs : List Top) (id : Nat) (g : GoodDoc raw idAttr cs id) (es : List RpcError)
    (h : readMessage .fixed k (replyDoc raw idAttr extra cs) = .rpcError es) :
    es = reportedErrors k cs := by
  have := reply_refines .fixed k raw idAttr extra cs id g ▸ replyAbs_post .fixed rfl k cs
  rw [h] at this
  exact this.1

/-! ### Non-vacuity and the pinned snapshot -/

/-- a concrete `rpc-error` of severity `error` with padded leaves and a comment inside a leaf -/
def exErr : ErrSpec :=
  { ty := .protocol, tySpan := "protocol", tyInner := [.text "protocol"],
    tag := "operation-failed", tagSpan := " operation-failed\n", tagInner := [.text "operation-failed"],
    sev := .error, sevSpan := "error", sevInner := [.comment, .text "error"],
    message := some ("\n statement creation failed\n", [.text "statement creation failed"]),
    appTag := none, raw := "rpc-error" }

def exWarn : ErrSpec := { exErr with sev := .warning, sevSpan := "warning", sevInner := [.text "warning"] }

theorem exErr_wf : exErr.WF where
  ty := by decide +kernel
  tag := by decide +kernel
  sev := by decide +kernel
  tyI := by decide +kernel
  tagI := by decide +kernel
  sevI := by decide +kernel
  msgI := fun p hp => by cases hp; decide +kernel
  appI := fun p hp => nomatch hp

theorem exWarn_wf : exWarn.WF :=
  ⟨exErr_wf.ty, exErr_wf.tag, by decide +kernel, exErr_wf.tyI, exErr_wf.tagI, by decide +kernel, exErr_wf.msgI,
    exErr_wf.appI⟩

/-- the hypotheses of the theorems are satisfiable by a document mixing everything -/
example : GoodDoc "rpc-reply" "101" [.comment, .results "load-configuration-results" [.err exWarn, .comment, .ok]] 101 :=
  ⟨by decide +kernel, by simp [Top.WF, Inner.WF, exWarn_wf], by decide +kernel⟩

/-- warnings followed by `<ok/>` (what Junos sends) are still a success … -/
example : readMessage .fixed .load
    (replyDoc "rpc-reply" "101" [] [.results "load-configuration-results" [.err exWarn, .ok]]) = .ok := by
  rw [reply_refines _ _ _ _ _ _ 101 ⟨by decide +kernel, by simp [Top.WF, Inner.WF, exWarn_wf], by decide +kernel⟩]
  decide +kernel

/-- … an error followed by `<ok/>` is not … -/
example : readMessage .fixed .load
    (replyDoc "rpc-reply" "101" [] [.results "load-configuration-results" [.err exErr, .ok]]) = .err .unexpected := by
  rw [reply_refines _ _ _ _ _ _ 101 ⟨by decide +kernel, by simp [Top.WF, Inner.WF, exErr_wf], by decide +kernel⟩]
  decide +kernel

/-- … and errors with a matching `load-error-count` are reported, in order. -/
example : readMessage .fixed .load
    (replyDoc "rpc-reply" "101" [] [.results "load-configuration-results"
      [.err exErr, .err exWarn, .count "2" [.text "2"]]]) = .rpcError [exErr.value, exWarn.value] := by
  rw [reply_refines _ _ _ _ _ _ 101
    ⟨by decide +kernel, by simp [Top.WF, Inner.WF, exErr_wf, exWarn_wf, Inert], by decide +kernel⟩]
  decide +kernel

/-- **Defect D5 of the pinned snapshot**: `<rpc-error>…error…</rpc-error><ok/>` inside
`<load-configuration-results>` resolved to success. -/
theorem load_ok_masks_error_cex : readMessage .pinned .load
    (replyDoc "rpc-reply" "101" [] [.results "load-configuration-results" [.err exErr, .ok]]) = .ok := by
  rw [reply_refines _ _ _ _ _ _ 101 ⟨by decide +kernel, by simp [Top.WF, Inner.WF, exErr_wf], by decide +kernel⟩]
  decide +kernel

/-! ### a frame is ONE document: a second root element never yields a success

In the pinned snapshot `ServerMsg::from_xml` overwrites the reply it has read with a later `<rpc-reply>` of
the same frame (D23): `<rpc-reply><rpc-error>…</rpc-error></rpc-reply><rpc-reply><ok/></rpc-reply>` is a
success. With `RCfg.oneRoot` (/repo now) any further start tag after the first reply element is an
unexpected event, whatever the first reply contained. -/

/-- every document of the reply grammar followed by a further start tag (a second `<rpc-reply>` in
particular), for every reply kind: the caller gets an error — never `Ok`, never data -/
theorem second_root_never_success (c : RCfg) (hc : c.oneRoot = true) (k : ReplyKind) (raw idAttr : String)
    (extra : List AttrItem) (cs : List Top) (hwf : ∀ x ∈ cs, x.WF) (t2 : Tag) (rest : List Ev) :
    ∃ e, readMessage c k
      (.start (replyTag raw idAttr extra) :: (cs.flatMap Top.render ++ .end raw :: .start t2 :: rest)) = .err e := by
  rw [readMessage]  -- by the equation, see `readMessage_doc`
  cases readPartial c _ none _ with
  | error e => exact ⟨e, rfl⟩
  | ok id1 =>
    dsimp only
    rw [phase2, List.length_cons, fromXmlReply_doc c k raw idAttr extra cs hwf _ (.start t2 :: rest) (by simp)]
    cases parseMessageId _ with
    | error e => exact ⟨e, rfl⟩
    | ok id =>
      cases replyAbs c k cs with
      | error e => exact ⟨e, rfl⟩
      | ok b => exact ⟨.unexpected, by simp only [List.length_append, List.length_cons, fromXmlReply_second_root c hc]⟩

/-- two reply elements in one frame, the first carrying an error, the second `<ok/>`: with
`oneRoot := false` (the pinned snapshot) the error is masked and the caller gets `Ok`; in /repo now it is
an error -/
def exTwoReplies : List Ev :=
  (replyDoc "rpc-reply" "101" [] [.err exErr]).dropLast ++ replyDoc "rpc-reply" "101" [] [.ok]

theorem second_root_masks_error_cex :
    readMessage { RCfg.fixed with oneRoot := false } .empty exTwoReplies = .ok
    ∧ readMessage .fixed .empty exTwoReplies = .err .unexpected := by decide +kernel

end Xml
