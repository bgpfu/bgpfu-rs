import Bgpfu.Lemmas.Policy
/-!
# C03 — unobtainable prefix data never removes or empties a managed policy

The property theorems of C03, a test vector and the counter-example for D10.  `failed_eval_untouched` and `delete_only_unmanaged` hold for every variant
of the code and every configuration (no well-formedness needed). The annotation part
(`malformed_annotation_untouched`, `delete_only_unmarked`) holds for the repaired candidate reader
(`keepMalformed`); with that one repair taken back it is false (`malformed_annotation_pinned_cex`, defect D10).
The resolver part of the property ("an unknown as-set makes the evaluation fail rather than yield
the empty set") is about `lib/src/query.rs` and lives with the IRR model, not here: in this file a
failed evaluation is `oracle e = none`.
-/
namespace Policy

/-- **Failed evaluation ⇒ no update and no delete.** -/
theorem failed_eval_no_update {ev : List (Str × Evaluated)} (inst : List (Str × Installed)) {n e : Str}
    (h : alGet n ev = some ⟨e, none⟩) : ∀ u ∈ compare ev inst, u.name ≠ n := by
  intro u hu hname
  have := mem_compare.1 hu
  rw [hname, compareOne_eq, h] at this
  cases this

/-- **Failed evaluation ⇒ the installed policy stays as it was**, for every variant of the code, every
configuration, and every order in which the updates are loaded: if the run succeeds at all, the
policy of a candidate whose evaluation failed is literally unchanged. -/
theorem failed_eval_untouched (c : Cfg) {cfg cfg' : JCfg} {ev : List (Str × Evaluated)}
    (inst : List (Str × Installed)) {n e : Str}
    (h : alGet n ev = some ⟨e, none⟩) (us : List Update) (hp : us.Perm (compare ev inst))
    (hr : applyAll cfg (us.map (render c)) = .ok cfg') : alGet n cfg' = alGet n cfg := by
  refine applyAll_frame hr fun hin => ?_
  rw [map_render_names] at hin
  obtain ⟨u, hu, hname⟩ := List.mem_map.1 hin
  exact failed_eval_no_update inst h u (hp.mem_iff.1 hu) hname

/-- the agent's own run as an instance -/
theorem failed_eval_untouched_run (c : Cfg) {cfg cfg' : JCfg} {ev : List (Str × Evaluated)} {n e : Str}
    (h : alGet n ev = some ⟨e, none⟩) (hr : run c cfg ev = .ok cfg') : alGet n cfg' = alGet n cfg := by
  unfold run plan at hr
  cases hi : readInstalled c cfg with
  | error x => simp [hi] at hr
  | ok inst =>
    simp only [hi] at hr
    exact failed_eval_untouched c inst h _ (List.Perm.refl _) hr

/-- **Deletes only for installed policies that are not candidates.** -/
theorem delete_only_unmanaged {ev : List (Str × Evaluated)} {inst : List (Str × Installed)} {n : Str}
    (h : Update.delete n ∈ compare ev inst) : n ∉ keys ev ∧ n ∈ keys inst := by
  have h1 : n ∉ keys ev := (alGet_eq_none_iff _ _).1 (compare_fromEval h)
  exact ⟨h1, (mem_keys_of_compareOne (mem_compare.1 h)).resolve_left h1⟩

/-- **Malformed annotation ⇒ untouched** (repaired candidate reader). A statement that is still
marked as managed (active, annotated, default reject) but whose `bgpfu-fltr:` expression does not
parse gets neither an update nor a delete, whatever is installed and whatever the IRR says. -/
theorem malformed_annotation_untouched {running : List RStmt} {cands : List (Str × Option Str)}
    (hc : candidates .fixed running = .ok cands) (oracle : Str → Option (List Range × List Range))
    (inst : List (Str × Installed)) {s : RStmt} (hs : s ∈ running) (hm : s.marked = true)
    (hmal : s.ann = .malformed) :
    ∀ u ∈ compare (evaluateAll oracle cands) inst, u.name ≠ s.name := by
  obtain ⟨e, he⟩ := marked_unobtainable hc oracle hs hm (Or.inl hmal)
  exact failed_eval_no_update inst he

/-- the same for a marked statement whose (well-formed) expression could not be evaluated:
unknown as-set, IRR error response, IRR unreachable — all arrive here as `oracle e = none` -/
theorem unevaluable_annotation_untouched {running : List RStmt} {cands : List (Str × Option Str)}
    (hc : candidates .fixed running = .ok cands) (oracle : Str → Option (List Range × List Range))
    (inst : List (Str × Installed)) {s : RStmt} (hs : s ∈ running) (hm : s.marked = true)
    {e : Str} (hp : s.ann = .parsed e) (hfail : oracle e = none) :
    ∀ u ∈ compare (evaluateAll oracle cands) inst, u.name ≠ s.name := by
  obtain ⟨e', he⟩ := marked_unobtainable hc oracle hs hm (Or.inr ⟨e, hp, hfail⟩)
  exact failed_eval_no_update inst he

/-- **Deletes are sent only for installed policies that are no longer marked as managed**
(repaired candidate reader). -/
theorem delete_only_unmarked {running : List RStmt} {cands : List (Str × Option Str)}
    (hc : candidates .fixed running = .ok cands) (oracle : Str → Option (List Range × List Range))
    (inst : List (Str × Installed)) {n : Str}
    (h : Update.delete n ∈ compare (evaluateAll oracle cands) inst) :
    n ∈ keys inst ∧ ∀ s ∈ running, s.marked = true → s.name ≠ n := by
  obtain ⟨h1, h2⟩ := delete_only_unmanaged h
  refine ⟨h2, fun s hs hm hname => h1 ?_⟩
  rw [← hname]
  apply (alGet_isSome_iff _ _).1
  rw [alGet_evaluateAll, marked_is_candidate hc hs hm]
  rfl

/-- whole pipeline, state level: after a successful run of the repaired code the installed policy of
every marked statement without obtainable prefix data is literally what it was -/
theorem unobtainable_untouched_run {running : List RStmt} (oracle : Str → Option (List Range × List Range))
    {cfg cfg' : JCfg} {ps : List PStmt} (hp : planFrom .fixed running oracle cfg = .ok ps)
    (hr : applyAll cfg ps = .ok cfg') {s : RStmt} (hs : s ∈ running) (hm : s.marked = true)
    (hbad : s.ann = .malformed ∨ ∃ e, s.ann = .parsed e ∧ oracle e = none) :
    alGet s.name cfg' = alGet s.name cfg := by
  unfold planFrom at hp
  cases hc : candidates .fixed running with
  | error x => simp [hc] at hp
  | ok cands =>
    simp only [hc] at hp
    unfold plan at hp
    cases hi : readInstalled .fixed cfg with
    | error x => simp [hi] at hp
    | ok inst =>
      simp only [hi, Except.ok.injEq] at hp
      subst hp
      obtain ⟨e, he⟩ := marked_unobtainable hc oracle hs hm hbad
      exact failed_eval_untouched .fixed inst he _ (.refl _) hr

/-! ### Non-vacuity, and D10 with its repair taken back (`keepMalformed := false`) -/

def c3P1 : Str := [112, 49]
def c3P2 : Str := [112, 50]
def c3A : Range := ⟨false, 3221225984, 24, 24, 32⟩
def c3B : Range := ⟨false, 167772160, 8, 16, 24⟩

/-- `p1` installed with one IPv4 range, `p2` installed IPv4-only (one family empty) -/
def c3Cfg : JCfg :=
  [(c3P1, ⟨none, [(inet, ⟨some inet, [c3A], true⟩)], true⟩),
   (c3P2, ⟨none, [(inet, ⟨some inet, [c3B], true⟩)], true⟩)]

/-- `p1` still marked but its annotation no longer parses; `p2` fine and re-evaluated -/
def c3Running : List RStmt := [⟨c3P1, .malformed, true, true⟩, ⟨c3P2, .parsed [66], true, true⟩]

def c3Oracle (e : Str) : Option (List Range × List Range) := if e = [66] then some ([c3A], []) else none

/-- repaired reader: one update (for `p2`), nothing for `p1`, and `p1` is unchanged afterwards -/
example :
    (match planFrom .fixed c3Running c3Oracle c3Cfg with
     | .ok ps => (ps.map (·.name) == [c3P2]) &&
         (match applyAll c3Cfg ps with
          | .ok c' => alGet c3P1 c' == alGet c3P1 c3Cfg && agentState c'
          | .error _ => false)
     | .error _ => false) = true := by decide +kernel

/-- **D10** (`keepMalformed := false`, the other repairs kept: the snapshot's candidate reader for
this defect only). The statement with the malformed annotation is dropped from the candidates, so the
still-managed, installed policy `p1` is deleted. -/
theorem malformed_annotation_pinned_cex :
    (match planFrom { Cfg.fixed with keepMalformed := false } c3Running c3Oracle c3Cfg with
     | .ok ps => ps.any (fun p => p.del && p.name == c3P1) &&
         (match applyAll c3Cfg ps with
          | .ok c' => (alGet c3P1 c').isNone
          | .error _ => false)
     | .error _ => false) = true := by decide +kernel

end Policy
