import Bgpfu.Lemmas.LogTable
import Bgpfu.Model.LogTableGen
/-!
# C20 — what the logging sites of the generated table write does not depend on the SSH password or the TLS client key

`LogTableGen.table` is regenerated from /repo by `tools/logtable.py` before this file is checked
(`pre_lean` of `./check C20`): one entry per `#[tracing::instrument]` function, per `tracing::*!` call and per
error-text constructor of netconf and junos-agent, each recorded field with the class of its formatter.

The property is non-interference: whatever the two secrets are, the sites of the table write the same text — at
every verbosity and under every filter. It is proved generically (`Bgpfu.Lemmas.LogTable`: for *all* tables
without a `derivesSecret`/`unknown` field); the only table-specific step is the finite side
condition `table_allSafe`, decided by the kernel on the regenerated table. The converse
(in `noninterference_iff_allSafe`) shows the side condition is exact: one unsafe field anywhere and the statement is false —
so a leaking site in /repo makes this file fail to check, it cannot be proved around.

Not covered by the theorem (tests only, op `logs`): what the dependencies (russh, rustls, tokio) log themselves,
and the fidelity of the translator's classification (spot-checked against the runtime metadata of every event).
-/
namespace LogTable
open LogTableGen

/-- side condition, decided on the generated table: no recorded field has formatter `derivesSecret` or `unknown` -/
theorem table_allSafe : allSafe table = true := by decide +kernel

/-- **C20, main theorem.** The log text written by the sites of the generated table is the same for all values of
the SSH password and the TLS client key. -/
theorem log_noninterference : ∀ s₁ s₂ : Secrets, logged table s₁ = logged table s₂ :=
  logged_indep_of_allSafe table table_allSafe

/-- … at every verbosity (`-q` … `-vvvv`, `RUST_LOG=<level>`) -/
theorem log_noninterference_at_level (lvl : Level) :
    ∀ s₁ s₂ : Secrets, logged (atLevel lvl table) s₁ = logged (atLevel lvl table) s₂ :=
  logged_indep_of_allSafe _ (allSafe_filter table _ table_allSafe)

/-- … and under every filter directive (any predicate on the site: target, module, span, level) -/
theorem log_noninterference_filtered (keep : Entry → Bool) :
    ∀ s₁ s₂ : Secrets, logged (table.filter keep) s₁ = logged (table.filter keep) s₂ :=
  logged_indep_of_allSafe _ (allSafe_filter table keep table_allSafe)

/-- The side condition is exact, for every table: the log text is independent of the secrets iff no field has an
unsafe formatter. -/
theorem noninterference_iff_allSafe (t : Table) :
    (∀ s₁ s₂ : Secrets, logged t s₁ = logged t s₂) ↔ allSafe t = true :=
  ⟨fun h => allSafe_of_logged_eq t (h secretsA secretsB), logged_indep_of_allSafe t⟩

/-- non-vacuity: the table is not empty and records both secrets through a redacting / eliding formatter -/
example : table.length > 100 := by decide +kernel
example : (table.any fun e => e.fields.any fun f => f.fmt == .redacting && f.src == .password) = true := by
  decide +kernel
example : (table.any fun e => e.fields.any fun f => f.fmt == .opaque && f.src == .clientKey) = true := by
  decide +kernel

/-- non-vacuity of the model: a `String` password field (what `Session::ssh` would record if `Password` derived
`Debug`) leaks -/
def leakyPassword : Table :=
  [{ file := "netconf/src/session.rs", line := 155, lineEnd := 156, func := "Session<Ssh>::ssh", kind := .instrument,
     level := .debug, mac := "instrument",
     fields := [{ name := "password", ty := "Password", fmt := .derivesSecret, src := .password, inMessage := false,
                  why := "" }] }]
example : logged leakyPassword ⟨['a'], []⟩ ≠ logged leakyPassword ⟨['b'], []⟩ := by decide +kernel

end LogTable
