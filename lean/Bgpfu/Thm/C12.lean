import Bgpfu.Lemmas.Hello
/-!
# C12 — session establishment negotiates a version both peers can actually speak

`establish c adv o evs` is `Session::new` on the server's hello message `evs`; `adv = false` is
what `ClientHello::default()` advertises in /repo now (:base:1.0 only), `adv = true` the pinned
snapshot (:base:1.0 and :base:1.1). The refinement `establish_refines`, `established_has_exact_base10` and
`second_root_refused` quantify over all documents of the hello grammar (`Bgpfu.Spec.HelloGrammar`: any capability
lists, session-id texts, comments, child order, duplicates, qualified names) and over every URI oracle; the
equivalences `establish_iff`, `establish_iff_exact` are stated for the canonical order of the children only (for any
children: `establish_ok_iff` in `Lemmas/Hello.lean`).
-/
namespace Xml

/-- **Refinement** (restated): on every grammar document `Session::new` computes `establishAbs`. -/
theorem establish_refines (c : RCfg) (adv : Bool) (o : UriOracle) (raw : String) (attrs : List AttrItem)
    (cs : List HChild) (hwf : ∀ x ∈ cs, x.WF) :
    establish c adv o (helloDoc raw attrs cs) = establishAbs c adv o cs :=
  establish_doc c adv o raw attrs cs hwf

/-- a session-id accepted by the reader is a non-zero 32-bit number -/
theorem sessionId_valid (s : String) (n : Nat) (h : parseSessionId s = some n) : 1 ≤ n ∧ n < 2 ^ 32 := by
  unfold parseSessionId at h
  cases hp : parseU32 s with
  | none => simp [hp] at h
  | some m =>
    simp only [hp] at h
    have hm := parseUnsigned_lt hp
    by_cases hz : (m == 0) = true
    · simp [hz] at h
    · simp only [hz, Bool.false_eq_true, if_false, Option.some.injEq] at h
      subst h
      simp at hz
      exact ⟨by omega, hm⟩

/-- **C12, establishment ⇔ validity** for a hello of the canonical shape — comments, the
capabilities element, comments, the session-id, comments (capabilities first): the session is
established iff every capability text is a URI, the session-id is a non-zero u32 and the server
advertises :base:1.0; the reported context is then exactly that of the hello, with version 1.0. -/
theorem establish_iff (c : RCfg) (o : UriOracle) (raw r : String) (attrs : List AttrItem)
    (pre mid post : List HChild) (ccs : List CapLeaf) (s : String) (i : List Ev)
    (hpre : ∀ x ∈ pre, x.isComment = true) (hmid : ∀ x ∈ mid, x.isComment = true)
    (hpost : ∀ x ∈ post, x.isComment = true)
    (hc : ∀ x ∈ ccs, x.WF) (hs : Inert "session-id" i) (ctx : Context) :
    establish c false o (helloDoc raw attrs (pre ++ .caps r ccs :: mid ++ .sid s i :: post)) = .ok ctx
      ↔ ∃ caps n, capsAbs c o [] ccs = .ok caps ∧ parseSessionId (c.tok s) = some n ∧ Capability.base10 ∈ caps
            ∧ ctx = { sid := n, version := .v10, serverCaps := caps } := by
  have hwf : ∀ x ∈ pre ++ .caps r ccs :: mid ++ .sid s i :: post, x.WF := by
    simp only [List.append_assoc, List.cons_append, List.forall_mem_append, List.forall_mem_cons]
    exact ⟨fun x hx => HChild.WF_of_isComment (hpre x hx), hc, fun x hx => HChild.WF_of_isComment (hmid x hx), hs,
      fun x hx => HChild.WF_of_isComment (hpost x hx)⟩
  have hpost' (caps sid) : helloAbs c o caps sid post = helloAbs c o caps sid [] := by
    simpa using helloAbs_comments (rest := []) hpost
  rw [establish_ok_iff c o raw attrs _ hwf, List.append_assoc, helloAbs_comments hpre]
  simp only [List.cons_append, helloAbs, Option.isNone_none, if_true]
  cases capsAbs c o [] ccs with
  | error e => simp
  | ok caps =>
    simp only [helloAbs_comments hmid, helloAbs, Option.isNone_none, if_true]
    cases parseSessionId (c.tok s) with
    | none => simp
    | some n =>
      simp only [hpost', helloAbs, Except.ok.injEq, Option.some.injEq]
      exact ⟨fun ⟨_, h, hb, hctx⟩ => by cases h; exact ⟨caps, n, rfl, rfl, hb, hctx⟩,
        fun ⟨_, _, h1, h2, hb, hctx⟩ => by cases h1; cases h2; exact ⟨_, rfl, hb, hctx⟩⟩

/-- the negotiated version is the highest one both peers advertised -/
theorem version_is_highest_common (client server : List Capability) (v : Base)
    (h : highestCommon client server = some v) :
    (v = .v11 → Capability.base11 ∈ client ∧ Capability.base11 ∈ server) ∧
    (v = .v10 → Capability.base10 ∈ client ∧ Capability.base10 ∈ server ∧
       ¬ (Capability.base11 ∈ client ∧ Capability.base11 ∈ server)) := by
  rw [highestCommon_eq] at h
  split at h
  · next h11 => cases h; exact ⟨fun _ => h11, fun hv => nomatch hv⟩
  · next h11 =>
    split at h
    · next h10 => cases h; exact ⟨fun hv => (nomatch hv), fun _ => ⟨h10.1, h10.2, h11⟩⟩
    · cases h

/-- when no version is negotiated (`Session::new` then fails with `VersionNegotiation`), neither :base:1.0 nor
:base:1.1 is advertised by both peers -/
theorem no_common_version_fails (client server : List Capability)
    (h : highestCommon client server = none) :
    ¬ (Capability.base10 ∈ client ∧ Capability.base10 ∈ server) ∧
    ¬ (Capability.base11 ∈ client ∧ Capability.base11 ∈ server) := by
  rw [highestCommon_eq] at h
  split at h
  · cases h
  · next h11 =>
    split at h
    · cases h
    · next h10 => exact ⟨h10, h11⟩

/-- **C12, usability**: the framing the client uses is the one RFC 6242 §4.1 requires of a client that advertises
what `ClientHello::default()` does in /repo now. This holds of EVERY server capability list (the hypothesis `_h` is
not used): chunked framing needs :base:1.1 on both sides and this client advertises :base:1.0 only. What fails when
it advertises both is `v11_unusable_cex`. -/
theorem established_is_usable (c : RCfg) (o : UriOracle) (evs : List Ev) (ctx : Context)
    (_h : establish c false o evs = .ok ctx) :
    framingUsed = framingRequired (clientAdvertised false) ctx.serverCaps := by
  simp [framingUsed, framingRequired, clientAdvertised]

/-! ### Non-vacuity and the pinned snapshot -/

def exOracle : UriOracle := fun s =>
  if s == "urn:ietf:params:netconf:base:1.0" then
    some { scheme := "urn", authority := none, path := "ietf:params:netconf:base:1.0", query := none, fragment := none }
  else if s == "urn:ietf:params:netconf:base:1.1" then
    some { scheme := "urn", authority := none, path := "ietf:params:netconf:base:1.1", query := none, fragment := none }
  else none

def exHello (caps : List String) : List Ev :=
  helloDoc "hello" [] [.comment, .caps "capabilities" (caps.map fun c => .cap c [.text c]), .sid "4" [.text "4"]]

example : (establish .fixed false exOracle (exHello ["urn:ietf:params:netconf:base:1.0", "urn:ietf:params:netconf:base:1.1"])).toOption
    = some { sid := 4, version := .v10, serverCaps := [.base10, .base11] } := by decide +kernel

example : (establish .fixed false exOracle (exHello ["urn:ietf:params:netconf:base:1.1"])).toOption = none := by decide +kernel

/-- **Defect D8 of the pinned snapshot**: the client advertises :base:1.1; with a server that does
too, the session is established with version 1.1 although chunked framing is not implemented. -/
theorem v11_unusable_cex :
    ∃ ctx, (establish .pinned true exOracle (exHello ["urn:ietf:params:netconf:base:1.0", "urn:ietf:params:netconf:base:1.1"])).toOption = some ctx
      ∧ ctx.version = .v11 ∧ framingUsed ≠ framingRequired (clientAdvertised true) ctx.serverCaps :=
  ⟨{ sid := 4, version := .v11, serverCaps := [.base10, .base11] }, by decide +kernel, rfl, by decide +kernel⟩

end Xml

/-! ## Exactness of capability recognition (`impl FromStr for Capability`, capabilities.rs:123-183)

For **every** decomposition `u : UriParts` the oracle (iri-string) may report for a capability text:
a capability of the table is recognised **iff** the five components are exactly those of the table
(`UriParts.Is`: scheme, authority, path as given, **no** query, **no** fragment). So no URI with a
query or a fragment — not even an empty one (`some ""`: `…base:1.0#`, `…base:1.0?`) —, another
scheme spelling or a longer/shorter path is ever taken for it. -/
namespace Xml

theorem classify_base10_iff (s : String) (u : UriParts) :
    classifyCapability s u = .base10 ↔ u.Is "urn" none "ietf:params:netconf:base:1.0" :=
  classify_eq_iff rfl s u

theorem classify_base11_iff (s : String) (u : UriParts) :
    classifyCapability s u = .base11 ↔ u.Is "urn" none "ietf:params:netconf:base:1.1" :=
  classify_eq_iff rfl s u

theorem classify_writableRunning_iff (s : String) (u : UriParts) :
    classifyCapability s u = .writableRunning ↔ u.Is "urn" none "ietf:params:netconf:capability:writable-running:1.0" :=
  classify_eq_iff rfl s u

theorem classify_candidate_iff (s : String) (u : UriParts) :
    classifyCapability s u = .candidate ↔ u.Is "urn" none "ietf:params:netconf:capability:candidate:1.0" :=
  classify_eq_iff rfl s u

theorem classify_confirmedCommit10_iff (s : String) (u : UriParts) :
    classifyCapability s u = .confirmedCommit10 ↔ u.Is "urn" none "ietf:params:netconf:capability:confirmed-commit:1.0" :=
  classify_eq_iff rfl s u

theorem classify_confirmedCommit11_iff (s : String) (u : UriParts) :
    classifyCapability s u = .confirmedCommit11 ↔ u.Is "urn" none "ietf:params:netconf:capability:confirmed-commit:1.1" :=
  classify_eq_iff rfl s u

theorem classify_rollbackOnError_iff (s : String) (u : UriParts) :
    classifyCapability s u = .rollbackOnError ↔ u.Is "urn" none "ietf:params:netconf:capability:rollback-on-error:1.0" :=
  classify_eq_iff rfl s u

theorem classify_validate10_iff (s : String) (u : UriParts) :
    classifyCapability s u = .validate10 ↔ u.Is "urn" none "ietf:params:netconf:capability:validate:1.0" :=
  classify_eq_iff rfl s u

theorem classify_validate11_iff (s : String) (u : UriParts) :
    classifyCapability s u = .validate11 ↔ u.Is "urn" none "ietf:params:netconf:capability:validate:1.1" :=
  classify_eq_iff rfl s u

theorem classify_startup_iff (s : String) (u : UriParts) :
    classifyCapability s u = .startup ↔ u.Is "urn" none "ietf:params:netconf:capability:startup:1.0" :=
  classify_eq_iff rfl s u

theorem classify_xpath_iff (s : String) (u : UriParts) :
    classifyCapability s u = .xpath ↔ u.Is "urn" none "ietf:params:netconf:capability:xpath:1.0" :=
  classify_eq_iff rfl s u

theorem classify_junos_iff (s : String) (u : UriParts) :
    classifyCapability s u = .junos ↔ u.Is "http" (some "xml.juniper.net") "/netconf/junos/1.0" :=
  classify_eq_iff rfl s u

/-- the `:url:1.0` capability: exact scheme, no authority, exact path, no fragment, **some** query;
its scheme list is `urlSchemes` of the unescaped query -/
theorem classify_url_iff (s : String) (u : UriParts) (l : List String) :
    classifyCapability s u = .url l ↔
      u.scheme = "urn" ∧ u.authority = none ∧ u.path = "ietf:params:netconf:capability:url:1.0" ∧
        u.fragment = none ∧ u.query.isSome = true ∧ l = urlSchemes (u.queryUnesc.getD "") := by
  rw [classify_eq_url_iff]
  simp only [isUrlCap, Bool.and_eq_true, beq_iff_eq, Option.isNone_iff_eq_none]
  exact ⟨fun ⟨⟨⟨⟨⟨h1, h2⟩, h4⟩, h3⟩, h5⟩, h6⟩ => ⟨h1, h2, h3, h4, h5, h6⟩,
    fun ⟨h1, h2, h3, h4, h5, h6⟩ => ⟨⟨⟨⟨⟨h1, h2⟩, h4⟩, h3⟩, h5⟩, h6⟩⟩

/-- `Unknown` keeps the capability text as it stands (that whatever is outside the table is `Unknown`:
`classify_eq_unknown`) -/
theorem classify_unknown (s t : String) (u : UriParts) (h : classifyCapability s u = .unknown t) : t = s :=
  String.toList_inj.1 (Caps.classify_unknown_raw ((classify_toCaps s u).symm.trans (congrArg _ h)))

/-- **C12, exactness at the reader**: a capability text is taken for `:base:1.0` iff it is a URI whose
components are exactly `urn`, no authority, `ietf:params:netconf:base:1.0`, no query, no fragment. -/
theorem parseCapability_base10_iff (o : UriOracle) (s : String) :
    parseCapability o s = .ok .base10 ↔ ∃ u, o s = some u ∧ u.Is "urn" none "ietf:params:netconf:base:1.0" :=
  parseCapability_exact_iff rfl o s

theorem parseCapability_base11_iff (o : UriOracle) (s : String) :
    parseCapability o s = .ok .base11 ↔ ∃ u, o s = some u ∧ u.Is "urn" none "ietf:params:netconf:base:1.1" :=
  parseCapability_exact_iff rfl o s

/-! ### the scheme list of `:url:1.0` -/

/-- `str::split(c)` is *the* decomposition of a text into `c`-free pieces separated by `c` -/
theorem splitOnChar_eq_iff (c : Char) (l : List Char) (ps : List (List Char)) :
    splitOnChar c l = ps ↔ ps ≠ [] ∧ (∀ p ∈ ps, c ∉ p) ∧ Caps.joinSep c ps = l := by
  rw [splitOnChar_eq]; exact Caps.splitOn_eq_iff c l ps

/-- **the schemes are exactly the comma-separated values of the parameters named `scheme`**: `x` is
a scheme of the (unescaped) query iff one of its `&`-separated parameters is `scheme=` followed by a
value one of whose `,`-separated pieces is `x`. -/
theorem mem_urlSchemes_iff (q x : String) :
    x ∈ urlSchemes q ↔
      ∃ param ∈ splitOnChar '&' q.toList, ∃ value, param = "scheme=".toList ++ value ∧
        ∃ piece ∈ splitOnChar ',' value, x = String.ofList piece := by
  have piece (L : List (List Char)) : x.toList ∈ L ↔ ∃ piece ∈ L, x = String.ofList piece :=
    ⟨fun h => ⟨_, h, String.ofList_toList.symm⟩, fun ⟨_, h, e⟩ => by rw [e, String.toList_ofList]; exact h⟩
  rw [mem_urlSchemes_toList, Caps.mem_urlSchemes_iff]
  simp only [splitOnChar_eq, piece]

/-- a parameter whose name is not exactly `scheme` (`fallback-scheme=…`, `xscheme=…`, `Scheme=…`,
`scheme` without `=`) contributes nothing: if no parameter starts with `scheme=`, there are no schemes -/
theorem urlSchemes_eq_nil (q : String) (h : ∀ param ∈ splitOnChar '&' q.toList, ¬ "scheme=".toList <+: param) :
    urlSchemes q = [] := by
  rw [splitOnChar_eq] at h
  exact List.map_eq_nil_iff.1 ((urlSchemes_toCaps q).trans (Caps.urlSchemes_eq_nil _ h))

/-- … and other parameters never change what the `scheme` parameters contribute: for queries written
as `&`-free parameters joined by `&` -/
theorem urlSchemes_append_other (params other : List (List Char)) (hne : params ≠ [])
    (hfree : ∀ p ∈ params ++ other, '&' ∉ p) (hother : ∀ p ∈ other, ¬ "scheme=".toList <+: p) (x : String) :
    x ∈ urlSchemes (String.ofList (Caps.joinSep '&' (params ++ other)))
      ↔ x ∈ urlSchemes (String.ofList (Caps.joinSep '&' params)) := by
  simp only [mem_urlSchemes_toList, String.toList_ofList]
  exact Caps.urlSchemes_append_other params other hne hfree hother x.toList

/-! ### the connection with establishment -/

/-- some capability text of the hello is decomposed by the oracle into exactly the `:base:1.0` parts -/
def HasExactBase10 (c : RCfg) (o : UriOracle) (cs : List HChild) : Prop :=
  ∃ r ccs span inner u, HChild.caps r ccs ∈ cs ∧ CapLeaf.cap span inner ∈ ccs ∧ o (c.tok span) = some u ∧
    u.Is "urn" none "ietf:params:netconf:base:1.0"

/-- **C12, no session without an exact `:base:1.0`**: for every document of the hello grammar (any
children in any order, any other capabilities, any oracle): if the session is established, some
capability text of the hello decomposes to exactly `urn` / no authority /
`ietf:params:netconf:base:1.0` / no query / no fragment. -/
theorem established_has_exact_base10 (c : RCfg) (o : UriOracle) (raw : String) (attrs : List AttrItem)
    (cs : List HChild) (hwf : ∀ x ∈ cs, x.WF) (ctx : Context)
    (h : establish c false o (helloDoc raw attrs cs) = .ok ctx) : HasExactBase10 c o cs := by
  obtain ⟨hello, hh, hb, _⟩ := (establish_ok_iff c o raw attrs cs hwf ctx).1 h
  rcases helloAbs_caps hh with h1 | ⟨r, ccs, hm, hc⟩
  · cases h1
  · obtain ⟨span, inner, u, hl, hu, hi⟩ := (base10_mem_capsAbs_iff hc).1 hb
    exact ⟨r, ccs, span, inner, u, hm, hl, hu, hi⟩

/-- … contrapositive: whatever else the hello contains, without such a text there is no session -/
theorem not_established_without_exact_base10 (c : RCfg) (o : UriOracle) (raw : String) (attrs : List AttrItem)
    (cs : List HChild) (hwf : ∀ x ∈ cs, x.WF) (hno : ¬ HasExactBase10 c o cs) (ctx : Context) :
    establish c false o (helloDoc raw attrs cs) ≠ .ok ctx :=
  fun h => hno (established_has_exact_base10 c o raw attrs cs hwf ctx h)

/-- **C12, establishment ⇔ validity, with `:base:1.0` spelled out**: `establish_iff` with the
membership `base10 ∈ caps` replaced by its meaning on the capability texts. -/
theorem establish_iff_exact (c : RCfg) (o : UriOracle) (raw r : String) (attrs : List AttrItem)
    (pre mid post : List HChild) (ccs : List CapLeaf) (s : String) (i : List Ev)
    (hpre : ∀ x ∈ pre, x.isComment = true) (hmid : ∀ x ∈ mid, x.isComment = true)
    (hpost : ∀ x ∈ post, x.isComment = true)
    (hc : ∀ x ∈ ccs, x.WF) (hs : Inert "session-id" i) (ctx : Context) :
    establish c false o (helloDoc raw attrs (pre ++ .caps r ccs :: mid ++ .sid s i :: post)) = .ok ctx
      ↔ ∃ caps n, capsAbs c o [] ccs = .ok caps ∧ parseSessionId (c.tok s) = some n
            ∧ (∃ span inner u, CapLeaf.cap span inner ∈ ccs ∧ o (c.tok span) = some u ∧
                u.Is "urn" none "ietf:params:netconf:base:1.0")
            ∧ ctx = { sid := n, version := .v10, serverCaps := caps } := by
  rw [establish_iff c o raw r attrs pre mid post ccs s i hpre hmid hpost hc hs ctx]
  constructor
  · rintro ⟨caps, n, h1, h2, h3, h4⟩
    exact ⟨caps, n, h1, h2, (base10_mem_capsAbs_iff h1).1 h3, h4⟩
  · rintro ⟨caps, n, h1, h2, h3, h4⟩
    exact ⟨caps, n, h1, h2, (base10_mem_capsAbs_iff h1).2 h3, h4⟩

/-! ### near misses (non-vacuity and documentation) -/

/-- `urn:ietf:params:netconf:base:1.0#` — an empty fragment is a fragment -/
theorem base10_empty_fragment_is_unknown :
    classifyCapability "urn:ietf:params:netconf:base:1.0#"
      { scheme := "urn", authority := none, path := "ietf:params:netconf:base:1.0", query := none, fragment := some "" }
      = .unknown "urn:ietf:params:netconf:base:1.0#" :=
  classify_of_fragment (Option.some_ne_none _)

/-- `urn:ietf:params:netconf:base:1.0?` — an empty query is a query -/
theorem base10_empty_query_is_unknown :
    classifyCapability "urn:ietf:params:netconf:base:1.0?"
      { scheme := "urn", authority := none, path := "ietf:params:netconf:base:1.0", query := some "", fragment := none,
        queryUnesc := some "" }
      = .unknown "urn:ietf:params:netconf:base:1.0?" :=
  classify_eq_unknown (fun _ _ _ _ _ h => nomatch h.2.2.2.1) (by simp only [ne_eq, String.reduceEq, not_false_eq_true])

/-- `…base:1.00`, `…base:1.`, `URN:…`, `urn://host/…`: longer / shorter path, another scheme spelling,
an authority — and the exact one for comparison -/
theorem base10_near_misses_are_unknown :
    classifyCapability "x"
        { scheme := "urn", authority := none, path := "ietf:params:netconf:base:1.00", query := none, fragment := none }
      = .unknown "x"
    ∧ classifyCapability "x"
        { scheme := "urn", authority := none, path := "ietf:params:netconf:base:1.", query := none, fragment := none }
      = .unknown "x"
    ∧ classifyCapability "x"
        { scheme := "URN", authority := none, path := "ietf:params:netconf:base:1.0", query := none, fragment := none }
      = .unknown "x"
    ∧ classifyCapability "x"
        { scheme := "urn", authority := some "", path := "ietf:params:netconf:base:1.0", query := none, fragment := none }
      = .unknown "x"
    ∧ classifyCapability "x"
        { scheme := "urn", authority := none, path := "ietf:params:netconf:base:1.0", query := none, fragment := none }
      = .base10 := by
  refine ⟨classify_eq_unknown ?_ ?_, classify_eq_unknown ?_ ?_, classify_eq_unknown ?_ ?_, classify_eq_unknown ?_ ?_,
    (classify_eq_iff rfl _ _).2 ⟨rfl, rfl, rfl, rfl, rfl⟩⟩
  all_goals first
    | (intro k sc au pa hk h
       cases k <;> cases hk <;> simp only [UriParts.Is, String.reduceEq, reduceCtorEq, false_and, and_false] at h)
    | simp only [ne_eq, String.reduceEq, not_false_eq_true]

/-- `?scheme=file&fallback-scheme=ftp`: only the parameter named `scheme` counts -/
theorem url_other_parameter_names_ignored :
    urlSchemes "scheme=file&fallback-scheme=ftp" = ["file"]
    ∧ urlSchemes "xscheme=http&fallback-scheme=ftp&scheme" = []
    ∧ urlSchemes "fallback-scheme=ftp&scheme=file,sftp&Scheme=http" = ["file", "sftp"]
    ∧ classifyCapability "x"
        { scheme := "urn", authority := none, path := "ietf:params:netconf:capability:url:1.0",
          query := some "scheme=file&amp;fallback-scheme=ftp", fragment := none,
          queryUnesc := some "scheme=file&fallback-scheme=ftp" } = .url ["file"] := by
  have h1 : urlSchemes "scheme=file&fallback-scheme=ftp" = ["file"] := by decide +kernel
  exact ⟨h1, by decide +kernel, by decide +kernel, (classify_eq_url_iff ..).2 ⟨by decide +kernel, h1.symm⟩⟩

/-- an oracle that decomposes the near misses the way iri-string does -/
def nearMissOracle : UriOracle := fun s =>
  if s == "urn:ietf:params:netconf:base:1.0#" then
    some { scheme := "urn", authority := none, path := "ietf:params:netconf:base:1.0", query := none, fragment := some "" }
  else if s == "urn:ietf:params:netconf:base:1.0?" then
    some { scheme := "urn", authority := none, path := "ietf:params:netconf:base:1.0", query := some "", fragment := none,
           queryUnesc := some "" }
  else if s == "urn:ietf:params:netconf:base:1.00" then
    some { scheme := "urn", authority := none, path := "ietf:params:netconf:base:1.00", query := none, fragment := none }
  else exOracle s

/-- a hello whose only "base" capabilities are the near misses is read (they are `Unknown`
capabilities) but no session is established; with the exact text next to them it is -/
theorem near_miss_hello_not_established :
    (match establish .fixed false nearMissOracle (exHello ["urn:ietf:params:netconf:base:1.0#",
        "urn:ietf:params:netconf:base:1.0?", "urn:ietf:params:netconf:base:1.00"]) with
      | .error e => some e | .ok _ => none) = some Err.other   -- Error::VersionNegotiation
    ∧ (establish .fixed false nearMissOracle (exHello ["urn:ietf:params:netconf:base:1.0#",
        "urn:ietf:params:netconf:base:1.0"])).toOption
      = some { sid := 4, version := .v10,
               serverCaps := [.unknown "urn:ietf:params:netconf:base:1.0#", .base10] } := by
  decide +kernel

/-! ### a hello message is ONE document: a second root element is refused

In the pinned snapshot `ServerMsg::from_xml` overwrites the message it has read with a later root element of the
same name (D23): a message holding two `<hello>` elements — not a well-formed document — establishes a session from
the second. `RCfg.oneRoot` is the rule of /repo now. -/

/-- every document of the hello grammar followed by a further start tag — a second `<hello>` in
particular — establishes no session, for every first hello, every second element and every
continuation -/
theorem second_root_refused (c : RCfg) (hc : c.oneRoot = true) (adv : Bool) (o : UriOracle)
    (raw : String) (attrs : List AttrItem) (cs : List HChild) (hwf : ∀ x ∈ cs, x.WF)
    (t2 : Tag) (rest : List Ev) (ctx : Context) :
    establish c adv o
      (.start (helloTag raw attrs) :: (cs.flatMap HChild.render ++ .end raw :: .start t2 :: rest)) ≠ .ok ctx := by
  -- `rw`, not `unfold`: see `establish_doc`
  rw [establish,
    fromXmlHello_doc c o raw attrs cs hwf _ (.start t2 :: rest) (by simp only [List.length_cons, List.length_append]; omega)]
  cases helloAbs c o none none cs with
  | error e => simp
  | ok h => simp only [List.length_cons, fromXmlHello_second_root c hc]; simp

/-- two hello elements in one message: without `oneRoot` (as in the pinned snapshot) the session is that of the
SECOND, session-id 9 and not 4 (`second_root_overwrites_cex`) -/
def exTwoHellos : List Ev :=
  (exHello ["urn:ietf:params:netconf:base:1.0"]).dropLast ++
    helloDoc "hello" [] [.caps "capabilities" [.cap "urn:ietf:params:netconf:base:1.0" [.text "urn:ietf:params:netconf:base:1.0"]],
                         .sid "9" [.text "9"]]

theorem second_root_overwrites_cex :
    (establish { RCfg.fixed with oneRoot := false } false exOracle exTwoHellos).toOption.map (·.sid) = some 9
    ∧ (establish .fixed false exOracle exTwoHellos).toOption = none := by
  decide +kernel

end Xml
